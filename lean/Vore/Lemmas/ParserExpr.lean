import Vore.Lemmas.ParserLeaves
/-!
# Vore.Lemmas.ParserExpr — simulation of the search-expression parser (mutual block)

`ExprIH rx ts f`: every function of the block, run with fuel `f` on an index whose fuel need
(`8·(|ts|−i) + rank`) is at most `f`, is related by `Sim` to its grammar counterpart run with
the same fuel.  `expr_sim` proves every field at `f+1` from `ExprIH … f`.
-/
namespace Vore.Parser
open Vore Vore.Grammar

variable {rx : Bytes → RegexOutcome} {ts : List Token}

structure ExprIH (rx : Bytes → RegexOutcome) (ts : List Token) (f : Nat) : Prop where
  expr : ∀ i t, tk ts i = some t → ignorable t.kind = false → 8 * (ts.length - i) + 6 ≤ f →
    Sim ts (i + 1) (parseExpression rx ts f i) (pExpression rx f (strip (ts.drop i)))
  at_ : ∀ i t, tk ts i = some t → ignorable t.kind = false → t.kind = .at → 8 * (ts.length - i) + 5 ≤ f →
    Sim ts (i + 1) (parseAt rx ts f i) (pAt rx f (strip (ts.drop i)))
  between : ∀ i t, tk ts i = some t → ignorable t.kind = false → t.kind = .between → 8 * (ts.length - i) + 5 ≤ f →
    Sim ts (i + 1) (parseBetween rx ts f i) (pBetween rx f (strip (ts.drop i)))
  exactly : ∀ i t, tk ts i = some t → ignorable t.kind = false → t.kind = .exactly → 8 * (ts.length - i) + 5 ≤ f →
    Sim ts (i + 1) (parseExactly rx ts f i) (pExactly rx f (strip (ts.drop i)))
  maybe : ∀ i t, tk ts i = some t → ignorable t.kind = false → t.kind = .maybe → 8 * (ts.length - i) + 5 ≤ f →
    Sim ts (i + 1) (parseMaybe rx ts f i) (pMaybe rx f (strip (ts.drop i)))
  notE : ∀ i t, tk ts i = some t → ignorable t.kind = false → t.kind = .not → 8 * (ts.length - i) + 5 ≤ f →
    Sim ts (i + 1) (parseNotExpression rx ts f i) (pNotExpression rx f (strip (ts.drop i)))
  curly : ∀ i t, tk ts i = some t → ignorable t.kind = false → t.kind = .opencurly → 8 * (ts.length - i) + 5 ≤ f →
    Sim ts (i + 1) (parseSubroutine rx ts f i) (pSubroutine rx f (strip (ts.drop i)))
  dec : ∀ i t, tk ts i = some t → ignorable t.kind = false → 8 * (ts.length - i) + 4 ≤ f →
    Sim ts (i + 1) (parsePrimaryOrDec rx ts f i) (pPrimaryOrDec rx f (strip (ts.drop i)))
  oror : ∀ i t, tk ts i = some t → ignorable t.kind = false → 8 * (ts.length - i) + 4 ≤ f →
    Sim ts (i + 1) (parsePrimaryOrOr rx ts f i) (pPrimaryOrOr rx f (strip (ts.drop i)))
  lit : ∀ i t, tk ts i = some t → ignorable t.kind = false → 8 * (ts.length - i) + 3 ≤ f →
    Sim ts (i + 1) (parseLiteral rx ts f i) (pLiteral rx f (strip (ts.drop i)))
  paren : ∀ i t, tk ts i = some t → ignorable t.kind = false → t.kind = .openparen → 8 * (ts.length - i) + 2 ≤ f →
    Sim ts (i + 1) (parseSubExpression rx ts f i) (pSubExpression rx f (strip (ts.drop i)))
  list : ∀ stop cur, cur < ts.length → 8 * (ts.length - cur) + 7 ≤ f →
    Sim ts cur (exprList rx ts stop f cur) (pExprList rx stop f (strip (ts.drop cur)))

/-- `exprList` stops at a significant token (the stop token the caller then inspects) -/
theorem exprList_sig {stop : Tok → Bool} : ∀ {f cur : Nat} {v : Expr} {k : Nat},
    exprList rx ts stop f cur = .ok v k → SigAt ts k
  | 0, _, _, _, h => by simp [exprList] at h
  | f + 1, cur, v, k, h => by
    rw [exprList] at h
    obtain ⟨w, t, hsk, _, h⟩ := withSkipTok_eq_ok h
    split at h
    · cases h; exact skip_lands hsk
    · obtain ⟨_, nx, _, h⟩ := Res.bind_eq_ok h
      obtain ⟨_, _, hel, h⟩ := Res.bind_eq_ok h
      cases h; exact exprList_sig hel

/-- … so the caller reads that token without skipping -/
theorem simList_bind {β : Type} {stop : Tok → Bool} {lo f cur : Nat} {g : GR Expr}
    {K : Expr → Nat → Res β} {K' : Expr → List STok → GR β}
    (h : Sim ts lo (exprList rx ts stop f cur) g)
    (hk : ∀ v k t, At ts lo k t → Sim ts lo (K v k) (K' v (strip (ts.drop k)))) :
    Sim ts lo ((exprList rx ts stop f cur).bind K) (g.bind K') := by
  apply sim_bind h; intro v k hr hb
  obtain ⟨t, htk, hs⟩ := exprList_sig hr
  exact hk v k t ⟨htk, hs, hb.1⟩

theorem parseExpression_named {i : Nat} {t : Token} (htk : tk ts i = some t) (hk : t.kind = .named) {e : Expr} {nx : Nat} :
    ∀ f, parseExpression rx ts f i ≠ .ok e nx
  | 0 => by rw [parseExpression]; nofun
  | f + 1 => by
    rw [parseExpression]
    simp [withTok, htk, hk, isPrimaryStart, isClassStart, isListableClass]

theorem pExpression_named {f : Nat} {t : STok} {r : List STok} (hk : t.kind = .named) :
    pExpression rx (f + 1) (t :: r) = .err := by
  rw [pExpression]
  simp [next, hk, isPrimaryStart, isClassStart, isListableClass]

theorem expr_sim (hrx : ∀ b, rx b ≠ .panic) (h : EndsEof ts) : ∀ f, ExprIH rx ts f
  | 0 => by constructor <;> intros <;> exact absurd ‹_ ≤ 0› (Nat.not_succ_le_zero _)
  | f + 1 => by
    have ih := expr_sim hrx h f
    -- the expression parser entered at a later cursor `p`, as a caller entered at `i` with fuel `hf` sees it
    have exprAt : ∀ {i a c t}, 8 * (ts.length - i) + a ≤ f + 1 → At ts (i + 1) c t →
        Sim ts (i + 1) (parseExpression rx ts f c) (pExpression rx f (strip (ts.drop c))) :=
      fun hf p => p.sim (ih.expr _ _ p.tk p.sig (fuel_later hf p.bnd (by decide)))
    exact {
      expr := fun i t htk hs hf => by
        rw [parseExpression, pExpression]
        apply sim_tok htk hs
        -- what every function dispatched to needs at most
        have hf5 : 8 * (ts.length - i) + 5 ≤ f := fuel_rank hf (by decide)
        refine sim_ite (fun hk => ih.at_ i t htk hs hk hf5) fun _ => ?_
        refine sim_ite (fun hk => ih.between i t htk hs hk hf5) fun _ => ?_
        refine sim_ite (fun hk => ih.exactly i t htk hs hk hf5) fun _ => ?_
        refine sim_ite (fun hk => ih.maybe i t htk hs hk hf5) fun _ => ?_
        refine sim_ite (fun hk => parseIn_sim h htk hs (by simp [hk]) (fuel_len hf5 (by decide))) fun _ => ?_
        refine sim_ite (fun hk => ih.curly i t htk hs hk hf5) fun _ => ?_
        refine sim_ite (fun hk => ih.notE i t htk hs hk hf5) fun _ => ?_
        refine sim_ite (fun hk => parseRegexp_sim hrx h htk hs hk) fun _ => ?_
        exact sim_ite (fun _ => ih.dec i t htk hs (fuel_rank hf (by decide))) fun _ => sim_err
      at_ := fun i t htk hs hk hf => by
        rw [parseAt, pAt, next_head htk hs]
        apply sim_expect (fun k => k = .least ∨ k = .most) (by decide) h (h.after htk (by simp [hk])); intro c t1 _ hb1
        apply sim_number h hb1; intro c2 _ hb2 v
        apply sim_skip h hb2; intro c3 t3 p3
        apply sim_bind (exprAt hf p3); intro e nx _ hb
        apply sim_bind (parseLoopSuffix_sim h hb); intro fn k _ hb2
        exact sim_ite (fun _ => sim_ok rfl hb2) fun _ => sim_ok rfl hb2
      between := fun i t htk hs hk hf => by
        rw [parseBetween, pBetween, next_head htk hs]
        apply sim_number h (h.after htk (by simp [hk])); intro c _ hb1 lo
        apply sim_expect (· = .and) (by decide) h hb1; intro c2 t2 _ hb2
        apply sim_number h hb2; intro c3 _ hb3 hi
        apply sim_skip h hb3; intro c4 t4 p4
        apply sim_bind (exprAt hf p4); intro e nx _ hb
        exact sim_map (parseLoopSuffix_sim h hb)
      exactly := fun i t htk hs hk hf => by
        rw [parseExactly, pExactly, next_head htk hs]
        apply sim_number h (h.after htk (by simp [hk])); intro c _ hb1 v
        apply sim_skip h hb1; intro c2 t2 p2
        apply sim_bind (exprAt hf p2); intro e nx hr hb
        -- the lookup for `named` goes back to the body's first token, and no expression starts with `named`
        have hnm : t2.kind ≠ .named := fun hnm => parseExpression_named p2.tk hnm f hr
        rw [withSkipTok_sig p2.tk p2.sig, if_neg hnm]
        exact sim_ok rfl hb
      maybe := fun i t htk hs hk hf => by
        rw [parseMaybe, pMaybe, next_head htk hs]
        apply sim_skip h (h.after htk (by simp [hk])); intro c t1 p1
        apply sim_bind (exprAt hf p1); intro e nx _ hb
        apply sim_skipTok h hb; intro c2 t2 p2 hst2
        exact sim_ite (fun hk2 => sim_ok rfl (p2.succ h (by simp [hk2]))) fun _ => sim_ok hst2 p2.bnd
      notE := fun i t htk hs hk hf => by
        rw [parseNotExpression, pNotExpression, next_head htk hs]
        apply sim_skipTok h (h.after htk (by simp [hk])); intro n t1 p1 hst1
        refine sim_ite (fun hk1 => ?_) fun _ => ih.dec i t htk hs (fuel_rank hf (by decide))
        rw [hst1]
        exact p1.sim (parseIn_sim h p1.tk p1.sig (by simp [hk1])
          (fuel_len (fuel_later hf p1.bnd (by decide : 0 < 8)) (by decide)))
      curly := fun i t htk hs hk hf => by
        rw [parseSubroutine, pSubroutine, next_head htk hs]
        have hb := h.after htk (by simp [hk])
        apply simList_bind (ih.list stopCurly (i + 1) hb.2 (fuel_later hf hb (by decide))); intro body c t1 p1
        apply sim_tok p1.tk p1.sig
        refine sim_ite (fun hk1 => ?_) fun _ => sim_err
        apply sim_expect (· = .equal) (by decide) h (p1.succ h (by simp [hk1])); intro c2 t2 _ hb2
        apply sim_expect (· = .identifier) (by decide) h hb2; intro c3 t3 hk3 hb3
        rw [sig_lex hk3 rfl]
        exact sim_ok rfl hb3
      dec := fun i t htk hs hf => by
        rw [parsePrimaryOrDec, pPrimaryOrDec]
        apply sim_bind (ih.lit i t htk hs (fuel_rank hf (by decide))); intro lit nx _ hb
        apply sim_skipTok h hb; intro c t1 p1 _
        refine sim_ite (c := t1.kind = .equal) (fun hk1 => ?_) fun _ => ?_
        · apply sim_expect (· = .identifier) (by decide) h (p1.succ h (by simp [hk1])); intro c2 t2 hk2 hb2
          rw [sig_lex hk2 rfl]
          exact sim_ok rfl hb2
        refine sim_ite (c := t1.kind = .or) (fun hk1 => ?_) fun _ => sim_ok rfl hb
        apply sim_skip h (p1.succ h (by simp [hk1])); intro c2 t2 p2
        exact sim_map (p2.sim (ih.oror c2 t2 p2.tk p2.sig (fuel_later hf p2.bnd (by decide))))
      oror := fun i t htk hs hf => by
        rw [parsePrimaryOrOr, pPrimaryOrOr]
        apply sim_bind (ih.lit i t htk hs (fuel_rank hf (by decide))); intro lit nx _ hb
        apply sim_skipTok h hb; intro c t1 p1 _
        refine sim_ite (fun hk1 => ?_) fun _ => sim_ok rfl hb
        apply sim_skip h (p1.succ h (by simp [hk1])); intro c2 t2 p2
        exact sim_map (p2.sim (ih.oror c2 t2 p2.tk p2.sig (fuel_later hf p2.bnd (by decide))))
      lit := fun i t htk hs hf => by
        rw [parseLiteral, pLiteral]
        apply sim_tok htk hs
        refine sim_ite (c := t.kind = .string) (fun hk => ?_) fun _ => ?_
        · rw [sig_lex hk rfl]
          exact sim_ok rfl (h.after htk (by simp [hk]))
        refine sim_ite (c := t.kind = .caseless) (fun hk => ?_) fun _ => ?_
        · exact sim_map (parseCaseless_sim h htk hs (by simp [hk]))
        refine sim_ite (c := t.kind = .identifier) (fun hk => ?_) fun _ => ?_
        · rw [sig_lex hk rfl]
          exact sim_ok rfl (h.after htk (by simp [hk]))
        refine sim_ite (c := t.kind = .openparen) (fun hk => ih.paren i t htk hs hk (fuel_rank hf (by decide))) fun _ => ?_
        refine sim_ite (c := t.kind = .not) (fun hk => parseNotLiteral_sim h htk hs (by simp [hk])) fun _ => ?_
        exact sim_ite (c := isClassStart t.kind = true) (fun _ => sim_map (parseCharacterClass_sim h htk hs)) fun _ => sim_err
      paren := fun i t htk hs hk hf => by
        rw [parseSubExpression, pSubExpression, next_head htk hs]
        have hb := h.after htk (by simp [hk])
        apply simList_bind (ih.list stopParen (i + 1) hb.2 (fuel_later hf hb (by decide))); intro body c t1 p1
        apply sim_tok p1.tk p1.sig
        exact sim_ite (fun hk1 => sim_ok rfl (p1.succ h (by simp [hk1]))) fun _ => sim_err
      list := fun stop cur hc hf => by
        rw [exprList, pExprList]
        apply sim_skipTok h ⟨Nat.le_refl _, hc⟩; intro w t p hst
        refine sim_ite (fun _ => sim_ok hst p.bnd) fun _ => ?_
        rw [hst]
        -- the first expression ends behind `cur`: the progress the loop's measure needs
        apply sim_bind (sim_mono (ih.expr w t p.tk p.sig (fuel_rank_le hf p.le (by decide))) (Nat.succ_le_succ p.le))
        intro e nx _ hb
        exact sim_map (sim_mono (ih.list stop nx hb.2 (fuel_later hf hb (by decide))) (Nat.le_of_lt hb.1)) }

end Vore.Parser

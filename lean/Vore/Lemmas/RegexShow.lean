import Vore.Lemmas.RegexTotal
import Vore.Spec.Regex
/-!
# Vore.Lemmas.RegexShow — the sub-parsers outside the mutual recursion read back what `Re.show` prints:
numbers, quantifiers, names, escapes, bracket classes
-/
namespace Vore.Rx
open Vore.Regex Vore.RegexParser

theorem digitByte_toNat (n : Nat) : (digitByte n).toNat = 48 + n % 10 := by
  unfold digitByte
  have : 48 + n % 10 < 256 := by omega
  simp [UInt8.toNat_ofNat', Nat.mod_eq_of_lt this]

theorem digitByte_isDigit (n : Nat) : isDigitB (digitByte n) = true := by
  simp [isDigitB, UInt8.le_iff_toNat_le, digitByte_toNat]
  omega

theorem digitsVal_append (l : Bytes) (d : UInt8) : digitsVal (l ++ [d]) = digitsVal l * 10 + (d.toNat - 48) := by
  simp [digitsVal, List.foldl_append]

theorem showNatAux_spec : ∀ (f n : Nat), n < f →
    (showNatAux f n ≠ [] ∧ (∀ c ∈ showNatAux f n, isDigitB c = true) ∧ digitsVal (showNatAux f n) = n) := by
  intro f
  induction f with
  | zero => intro n h; omega
  | succ f ih =>
    intro n hn
    simp only [showNatAux]
    have hlast : ∀ c ∈ [digitByte n], isDigitB c = true := List.forall_mem_singleton.mpr (digitByte_isDigit n)
    split
    · refine ⟨by simp, hlast, ?_⟩
      simp [digitsVal, digitByte_toNat]; omega
    · obtain ⟨_, hall, hval⟩ := ih (n / 10) (by omega)
      refine ⟨by simp, List.forall_mem_append.mpr ⟨hall, hlast⟩, ?_⟩
      rw [digitsVal_append, hval, digitByte_toNat]; omega

theorem showNat_ne_nil (n : Nat) : showNat n ≠ [] := (showNatAux_spec (n + 1) n (by omega)).1
theorem showNat_digits (n : Nat) : ∀ c ∈ showNat n, isDigitB c = true := (showNatAux_spec (n + 1) n (by omega)).2.1
theorem showNat_val (n : Nat) : digitsVal (showNat n) = n := (showNatAux_spec (n + 1) n (by omega)).2.2

def noDigitHead : Bytes → Bool
  | [] => true
  | c :: _ => !isDigitB c

theorem span_append {p : UInt8 → Bool} {ds : Bytes} (hall : ∀ c ∈ ds, p c = true) {c : UInt8} (hc : p c = false)
    (rest : Bytes) :
    (ds ++ c :: rest).takeWhile p = ds ∧ (ds ++ c :: rest).dropWhile p = c :: rest := by
  rw [List.takeWhile_append_of_pos hall, List.dropWhile_append_of_pos hall]
  simp [hc]

/-- `number` indexes past the end when the digits end the pattern, so a byte follows them: in `Quant.show`, `,` or `}` -/
theorem number_show (m : Nat) (hm : m ≤ maxInt) {c : UInt8} (hc : isDigitB c = false) (rest : Bytes) :
    number (showNat m ++ c :: rest) = .ok (m, c :: rest) := by
  have hsp := span_append (showNat_digits m) hc rest
  unfold number
  split
  · next h => simp at h
  · simp [spanDigits_eq, hsp, showNat_ne_nil, showNat_val, Nat.not_lt.mpr hm]

/-- the byte the parser looks at next; the end of the pattern stops it like `)` -/
def peek (l : Bytes) : UInt8 := l.headD 41

def qStart (c : UInt8) : Bool := c == 42 || c == 43 || c == 63 || c == 123

theorem lazyTail_show (mn : Nat) (mx : Int) (lz : Bool) (tail : Bytes) (ht : qStart (peek tail) = false) :
    lazyTail mn mx ((if lz then [63] else []) ++ tail) = .ok (some (mn, mx, lz), tail) := by
  cases lz with
  | true => simp [lazyTail]
  | false =>
    cases tail with
    | nil => simp [lazyTail]
    | cons c t =>
      simp only [peek, List.headD_cons, qStart, Bool.or_eq_false_iff, beq_eq_false_iff_ne] at ht
      simp [lazyTail, ht.1.2]

theorem quantifier_none (tail : Bytes) (ht : qStart (peek tail) = false) : quantifier tail = .ok (none, tail) := by
  cases tail with
  | nil => simp [quantifier]
  | cons c t =>
    simp only [peek, List.headD_cons, qStart, Bool.or_eq_false_iff, beq_eq_false_iff_ne] at ht
    simp [quantifier, ht]

theorem quantifier_show (q : Quant) (lz : Bool) (tail : Bytes) (hq : q.ok = true) (ht : qStart (peek tail) = false) :
    quantifier (q.show ++ ((if lz then [63] else []) ++ tail)) = .ok (some (q.min, q.maxInt, lz), tail) := by
  have hl := fun mn mx => lazyTail_show mn mx lz tail ht
  cases q with
  | star | plus | opt => simp [Quant.show, quantifier, hl, Quant.min, Quant.maxInt]
  | exact m =>
    -- `hq : m ≤ maxCount` serves as `m ≤ maxInt`: the two constants are the same numeral
    simp only [Quant.ok, decide_eq_true_eq] at hq
    simp [Quant.show, quantifier, number_show m hq (c := 125) rfl, PR.bind, hl, Quant.min, Quant.maxInt]
  | atLeast m =>
    simp only [Quant.ok, decide_eq_true_eq] at hq
    simp [Quant.show, quantifier, number_show m hq (c := 44) rfl, PR.bind, hl, Quant.min, Quant.maxInt]
  | between m n =>
    simp only [Quant.ok, Bool.and_eq_true, decide_eq_true_eq] at hq
    -- what follows the `,` is a digit of `n`, not `}`
    obtain ⟨d, ds, hd⟩ := List.exists_cons_of_ne_nil (showNat_ne_nil n)
    have hd125 : d ≠ 125 := by intro h; subst h; cases showNat_digits n 125 (by simp [hd])
    have h2 := number_show n hq.2 (c := 125) rfl ((if lz then [63] else []) ++ tail)
    rw [hd, List.cons_append] at h2
    simp [Quant.show, quantifier, number_show m (Nat.le_trans hq.1 hq.2) (c := 44) rfl, PR.bind, hd, hd125, h2, hl,
      Quant.min, Quant.maxInt]

theorem runeBytes_ascii {c : UInt8} (h : c < 128) : runeBytes c = [c] := by simp [runeBytes, h]

theorem okChr_lt {c : UInt8} (h : okChr c = true) : c < 128 := by
  simp only [okChr, Bool.and_eq_true, decide_eq_true_eq] at h; exact h.2

theorem isAlnum_isIdentB {c : UInt8} (h : isAlnum c = true) : isIdentB c = true := by
  have e : isIdentB c = (isAlnum c || c == 0xAA || c == 0xB5 || c == 0xBA ||
      (0xC0 ≤ c && c ≤ 0xD6) || (0xD8 ≤ c && c ≤ 0xF6) || 0xF8 ≤ c) := rfl
  rw [e, h]; rfl

theorem identThenGt_name {nm rest : Bytes} {msg : String} (h : nm.all isAlnum = true) :
    identThenGt (nm ++ 62 :: rest) msg = .ok (nm, rest) := by
  have hsp := span_append (p := isIdentB) (fun c hc => isAlnum_isIdentB (List.all_eq_true.mp h c hc)) (c := 62) rfl rest
  simp [identThenGt, spanIdent_eq, hsp]

theorem latin1_eq (b : Bytes) : latin1 b = nameStr b := rfl

theorem decimalAux_eq : ∀ f n, decimalAux f n = showNatAux f n := by
  intro f
  induction f with
  | zero => intro n; rfl
  | succ f ih => intro n; simp only [decimalAux, showNatAux, digitByte, ih]

theorem groupName_eq (n : Nat) : groupName n = numName n := by
  simp only [groupName, refName, decimal, decimalAux_eq, numName, showNat]

theorem escape_special {c : UInt8} (h : isSpecial c = true) (rest : Bytes) :
    escape (c :: rest) = .ok (.atom (.str false false [c]), rest) := by
  simp only [isSpecial, Bool.or_eq_true, beq_iff_eq] at h
  -- none of the fourteen is `1`…`9` or a letter `escape` knows, so each falls through to the last arm; all are ASCII
  rcases h with ((((((((((((h | h) | h) | h) | h) | h) | h) | h) | h) | h) | h) | h) | h) | h <;>
    subst h <;> rfl

theorem showNat_small (n : Nat) (h : n < 10) : showNat n = [digitByte n] := by
  simp [showNat, showNatAux, h]

theorem showNat_two (n : Nat) (h1 : 10 ≤ n) (h2 : n < 100) : showNat n = [digitByte (n / 10), digitByte n] := by
  have h3 : ¬ n < 10 := by omega
  have h4 : n / 10 < 10 := by omega
  -- `showNatAux` unfolds twice only on fuel of the form `k + 2`
  obtain ⟨k, rfl⟩ : ∃ k, n = k + 1 := ⟨n - 1, by omega⟩
  simp [showNat, showNatAux, h3, h4]

theorem digitByte_range (n : Nat) (h1 : 1 ≤ n % 10) : 49 ≤ digitByte n ∧ digitByte n ≤ 57 := by
  simp [UInt8.le_iff_toNat_le, digitByte_toNat]
  omega

/-- `escape` reads a printed back-reference: one digit if no digit follows, else two -/
theorem escape_ref {k : Nat} (h1 : 1 ≤ k) (h2 : k ≤ 99) {rest : Bytes} (hnd : k < 10 → noDigitHead rest = true) :
    escape (showNat k ++ rest) = .ok (.var (numName k), rest) := by
  by_cases hk : k < 10
  · have hrange := digitByte_range k (by omega)
    have hnd := hnd hk
    cases rest with
    | nil => simp [showNat_small k hk, escape, hrange, numName, refName]
    | cons d t =>
      simp only [noDigitHead, Bool.not_eq_true'] at hnd
      simp [showNat_small k hk, escape, hrange, numName, refName, hnd]
  · have hrange := digitByte_range (k / 10) (by omega)
    simp [showNat_two k (by omega) (by omega), escape, hrange, numName, refName, digitByte_isDigit]

theorem okClsChr_facts {c : UInt8} (h : okClsChr c = true) : c ≠ 93 ∧ c ≠ 92 ∧ c ≠ 45 ∧ c ≠ 94 ∧ c < 128 := by
  simp only [okClsChr, okChr, Bool.and_eq_true, bne_iff_ne, ne_eq, decide_eq_true_eq] at h
  exact ⟨h.1.1.1.2, h.1.1.2, h.1.2, h.2, h.1.1.1.1.2⟩

theorem showItems_head (items : List ClsItem) (hok : items.all ClsItem.ok = true) (rest : Bytes) :
    ∃ d t, showItems items ++ 93 :: rest = d :: t ∧ d ≠ 45 ∧ d ≠ 94 := by
  cases items with
  | nil => exact ⟨93, rest, rfl, by decide, by decide⟩
  | cons i ri =>
    simp only [List.all_cons, Bool.and_eq_true] at hok
    cases i with
    | single c =>
      obtain ⟨_, _, h45, h94, _⟩ := okClsChr_facts (c := c) hok.1
      exact ⟨c, _, rfl, h45, h94⟩
    | range lo hi =>
      simp only [ClsItem.ok, Bool.and_eq_true] at hok
      obtain ⟨_, _, h45, h94, _⟩ := okClsChr_facts hok.1.1.1
      exact ⟨lo, _, rfl, h45, h94⟩

theorem classItems_item (i : ClsItem) (hi : i.ok = true) (d : UInt8) (t : Bytes) (hd : d ≠ 45) :
    classItems (i.show ++ d :: t) = (classItems (d :: t)).bind fun (items, r) => .ok (i.toAtom :: items, r) := by
  cases i with
  | single c =>
    obtain ⟨h93, h92, _, _, hlt⟩ := okClsChr_facts (c := c) hi
    rw [ClsItem.show, List.singleton_append, classItems.eq_def]
    simp [h93, h92, hd, runeBytes_ascii hlt, ClsItem.toAtom]
  | range lo hi' =>
    simp only [ClsItem.ok, Bool.and_eq_true] at hi
    obtain ⟨h93, h92, _, _, hlt⟩ := okClsChr_facts hi.1.1
    obtain ⟨h93', _, _, _, hlt'⟩ := okClsChr_facts hi.1.2
    rw [ClsItem.show, classItems.eq_def]
    simp [h93, h92, h93', runeBytes_ascii hlt, runeBytes_ascii hlt', ClsItem.toAtom]

theorem classItems_show : ∀ (items : List ClsItem) (rest : Bytes), items.all ClsItem.ok = true →
    classItems (showItems items ++ 93 :: rest) = .ok (items.map ClsItem.toAtom, rest)
  | [], rest, _ => by rw [showItems, List.nil_append, classItems.eq_def]; simp
  | i :: ri, rest, hok => by
    simp only [List.all_cons, Bool.and_eq_true] at hok
    obtain ⟨d, t, hd, hd45, _⟩ := showItems_head ri hok.2 rest
    rw [showItems, List.append_assoc, hd, classItems_item i hok.1 d t hd45, ← hd, classItems_show ri rest hok.2]
    rfl

theorem charClass_show (neg : Bool) (items : List ClsItem) (rest : Bytes) (hne : items ≠ [])
    (hok : items.all ClsItem.ok = true) :
    charClass ((if neg then [94] else []) ++ (showItems items ++ 93 :: rest)) =
      .ok (.inl neg (items.map ClsItem.toAtom), rest) := by
  obtain ⟨d, t, hd, _, hd94⟩ := showItems_head items hok rest
  have hcl := classItems_show items rest hok
  rw [hd] at hcl ⊢
  cases neg <;> simp [charClass, hd94, hcl, PR.bind, hne]

end Vore.Rx

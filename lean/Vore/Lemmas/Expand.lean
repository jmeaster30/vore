import Vore.Lemmas.Flatten
import Vore.Spec.Search
import Vore.Lemmas.GenCF
/-!
# Vore.Lemmas.Expand — a program with definitions means what its expansion means

`toExpr` reads a resolved expression without calls and without predicates back as an ordinary call-free
pattern (`star` becomes an optional loop, a subroutine node its body).  On such expressions the stage-2
semantics `mrWith noCall` *is* the stage-1 semantics `Spec.m` of that pattern — equal as functions.  Together
with `mrN_flatten` this gives: whenever the flattening of a program leaves no call (definitions that are not
recursive, expanded deep enough) its matches are those of the call-free pattern obtained by writing every
definition out in place — and that pattern's specification has the declarative list reading of `Spec.outs`.
-/
namespace Vore
open Vore.Spec

/-- no call, no predicate, no degenerate `star 0`, no empty `in` list -/
def expandable : RExpr → Bool
  | .empty => true
  | .seq a b => expandable a && expandable b
  | .atom _ => true
  | .backref _ => true
  | .call _ _ => false
  | .star mx _ body => mx != 0 && expandable body
  | .branch l r => expandable l && expandable r
  | .dec _ body => expandable body
  | .sub _ _ body pred => pred == .skip && expandable body
  | .inl neg items => neg || !items.isEmpty

/-- the call-free pattern a call-free resolved expression stands for -/
def toExpr : RExpr → Expr
  | .empty => .empty
  | .seq a b => .seq (toExpr a) (toExpr b)
  | .atom a => .atom a
  | .backref x => .var x
  | .call x _ => .var x
  | .star mx fewest body => .loop 0 mx fewest "" (toExpr body)
  | .branch l r => .branch (toExpr l) (toExpr r)
  | .dec x body => .dec x (toExpr body)
  | .sub _ _ body _ => toExpr body
  | .inl neg items => .inl neg items

theorem callFree_toExpr : ∀ r : RExpr, expandable r = true → CallFree (toExpr r) := by
  intro r
  induction r with
  | seq a b iha ihb | branch a b iha ihb =>
    intro h; simp only [expandable, Bool.and_eq_true] at h; exact ⟨iha h.1, ihb h.2⟩
  | star mx f body ih => intro h; simp only [expandable, Bool.and_eq_true] at h; exact ⟨rfl, ih h.2⟩
  | dec x body ih => intro h; exact ih h
  | sub id x body pred ih => intro h; simp only [expandable, Bool.and_eq_true] at h; exact ih h.2
  | call x id => intro h; cases h
  | inl n items =>
    intro h
    simp only [expandable, Bool.or_eq_true, Bool.not_eq_true', List.isEmpty_eq_false_iff] at h
    exact h
  | _ => intro _; trivial

theorem mrWith_eq_m {text : Bytes} {lf pf : Nat} {ρ : Procs} :
    ∀ r : RExpr, expandable r = true → mrWith text lf pf ρ noCall r = m text lf (toExpr r) := by
  intro r
  induction r with
  | seq a b iha ihb | branch a b iha ihb =>
    intro h
    simp only [expandable, Bool.and_eq_true] at h
    funext d ks fk
    simp only [mrWith, toExpr, m, iha h.1, ihb h.2]
  | call x id => intro h; cases h
  | star mx fewest body ih =>
    -- `star mx` is the loop `0 .. mx`: no mandatory copy, and `mx ≠ 0` keeps it from being the loop `exactly 0`
    intro h
    simp only [expandable, Bool.and_eq_true, bne_iff_ne] at h
    funext d ks fk
    have hb : (((0 : Nat) : Int) == mx) = false := beq_eq_false_iff_ne.mpr (Ne.symm h.1)
    have harg : (if mx > 0 then mx - ((0 : Nat) : Int) else mx) = mx := by split <;> simp
    simp only [mrWith, toExpr, m, Spec.repeatM, ih h.2, hb, Bool.false_eq_true, if_false, harg]
  | dec x body ih =>
    intro h
    funext d ks fk
    simp only [mrWith, toExpr, m, ih h]
  | sub id x body pred ih =>
    intro h
    simp only [expandable, Bool.and_eq_true] at h
    funext d ks fk
    simp only [mrWith, toExpr, withPred_skip h.1, ih h.2]
  | inl neg items => intro _; cases neg <;> rfl
  | _ => intro _; rfl

/-- **expansion**: if flattening a resolved body `cf` levels deep leaves an expandable expression (no call left:
the definitions are not recursive; no predicate), the specification with subroutines answers exactly what the
call-free specification answers on the pattern with every definition written out in place -/
theorem findAllR_eq_findAll_expansion (text : Bytes) (pf cf : Nat) (r : RExpr)
    (h : expandable (flattenN (procsOf r) cf r) = true) :
    findAllR text pf cf r = findAll text (toExpr (flattenN (procsOf r) cf r)) := by
  unfold findAllR findAll scanAll
  have hatt : attemptR text (text.length + 2) pf cf r =
      attempt text (text.length + 2) (toExpr (flattenN (procsOf r) cf r)) := by
    funext pos line col
    unfold attemptR attempt
    rw [mrN_flatten (procsOf r), mrWith_eq_m _ h]
  rw [hatt]

end Vore

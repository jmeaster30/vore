import Vore.Spec.Regex
import Vore.Lemmas.GenCF
import Vore.Lemmas.RegexLin
import Vore.Lemmas.SpecTotal
/-!
# Vore.Lemmas.RegexSem — the translated tree means what the regular expression means

`Sim`: a logical relation between a matcher of `Spec.Search` (on `Data`) and a matcher of
`Spec.Regex` (on `St`): started from related states with related continuations (`KRel`: related answers on
related failure continuations, and the vore one linear) they give related answers.  `sim_m`: for every
regular expression whose repeated bodies cannot match the empty string, `Spec.m (Re.toExpr r)` and
`Regex.m r` are related — by induction on `r`; the loop case is where vore's rule (optional iterations
must consume; `max` visited once more) meets the textbook one.  What is used of the vore matchers
themselves is that they offer their continuation a finite list of good data (`m_visits`).
The leaves `a` `.` `\d` `\s` `[…]` `[^…]` are all `byteD text pred` (read one byte satisfying `pred`)
on the vore side, `Regex.one text pred` on the other: `sim_byte`.
-/
namespace Vore.Rx
open Vore.Spec Vore.Regex

/-- what the regex semantics sees of the data of a match in progress -/
def proj (d : Data) : St := ⟨d.pos, d.env⟩

def pr : SRes → RRes
  | .matched d => .matched (proj d)
  | .fail => .fail

/-- the property's texts: no `\r`, no `\f` -/
def TextOK (text : Bytes) : Prop := ∀ b ∈ text, b ≠ 13 ∧ b ≠ 12

/-- data of a match in progress that started at `p0`: inside the text, and `cur` is the text from `p0` -/
def Inv (text : Bytes) (p0 : Nat) (d : Data) : Prop :=
  Good text p0 d ∧ d.cur = (text.take d.pos).drop p0

/-- an atom that reads one byte satisfying `pred` -/
def byteD (text : Bytes) (pred : UInt8 → Bool) (d : Data) : Option Data :=
  match text[d.pos]? with
  | some b => if pred b then some (consumeD text d 1) else none
  | none => none

theorem litD_byte (text : Bytes) (c : UInt8) (neg : Bool) (d : Data) :
    litD text [c] neg false d = byteD text (fun b => (b == c) != neg) d := by
  simp only [litD, byteD, List.length_singleton, readAt_one]
  cases text[d.pos]? with
  | none => rfl
  | some b =>
    have e : ([c] == [b]) = (b == c) := by rw [BEq.comm (a := b)]; simp
    simp [e]

theorem bytesLe_single (a b : UInt8) : bytesLe [a] [b] = decide (a ≤ b) := by
  simp only [bytesLe, UInt8.lt_iff_toNat_lt, UInt8.le_iff_toNat_le]
  by_cases h : b.toNat < a.toNat
  · simp [h, Nat.lt_asymm h]
  · simp [h, Nat.le_of_not_lt h]

/-- both polarities: a negated range needs a byte to reject (fix f73d71e) -/
theorem rangeD_byte (text : Bytes) (lo hi : UInt8) (neg : Bool) (d : Data) :
    rangeD text [lo] [hi] neg d = byteD text (fun b => (decide (lo ≤ b) && decide (b ≤ hi)) != neg) d := by
  simp only [rangeD, byteD, List.length_singleton, Nat.add_sub_cancel, rangeLoopD, Nat.add_zero, readAt_one]
  cases text[d.pos]? with
  | none => rfl
  | some b => cases neg <;> simp [inRange, bytesLe_single]

theorem spaceD_byte {text : Bytes} (htext : TextOK text) (neg : Bool) (d : Data) :
    classD text .whitespace neg d = byteD text (fun b => isSpace b != neg) d := by
  simp only [classD, byteD, readAt_one]
  cases hb : text[d.pos]? with
  | none => rfl
  | some b =>
    have e : ([b] == [32] || [b] == [9] || [b] == [10] || [b] == [13]) = isSpace b := by
      simp [isSpace, (htext b (List.mem_of_getElem? hb)).2]
    simp only [Option.toList, e]
    by_cases h : isSpace b = true <;> cases neg <;> simp [h]

theorem itemD_byte (text : Bytes) (i : ClsItem) (d : Data) : atomD text i.toAtom d = byteD text i.mem d := by
  cases i with
  | single c => simp only [ClsItem.toAtom, atomD, litD_byte, Bool.bne_false]; rfl
  | range lo hi => simp only [ClsItem.toAtom, atomD, rangeD_byte, Bool.bne_false]; rfl

theorem inv_consume {text : Bytes} {p0 : Nat} {d : Data} (h : Inv text p0 d) (n : Nat) :
    Inv text p0 (consumeD text d n) := by
  refine ⟨(good_consume h.1 n).1, ?_⟩
  show d.cur ++ readAt text d.pos n = (text.take (d.pos + (readAt text d.pos n).length)).drop p0
  have hle : p0 ≤ (text.take d.pos).length := by
    have := h.1.1; have := h.1.2
    simp [List.length_take]; omega
  rw [(readAt_spec text d.pos n).1, h.2, List.drop_append_of_le_length hle]

/-- the text a capture binds: what was consumed since `d` -/
theorem inv_drop {text : Bytes} {p0 : Nat} {d d' : Data} (h : Inv text p0 d) (h' : Inv text p0 d') :
    d'.cur.drop d.cur.length = Regex.slice text d.pos d'.pos := by
  rw [h'.2, List.drop_drop, ← h.1.2]
  exact List.drop_take ..

/-- related success continuations of a matcher started with `len` bytes consumed that consumes at least `k`;
the vore one is linear on what such a matcher can offer -/
def KRel (text : Bytes) (p0 len k : Nat) (ks1 : SK) (ks2 : RSK) : Prop :=
  LinOn text p0 len ks1 ∧
  ∀ ⦃d' fk1' fk2'⦄, Inv text p0 d' → len + k ≤ d'.cur.length → (fk1' ()).map pr = fk2' () →
    (ks1 d' fk1').map pr = ks2 (proj d') fk2'

theorem KRel.mono {text : Bytes} {p0 len k len' k' : Nat} {ks1 ks2} (h : KRel text p0 len k ks1 ks2)
    (hl : len ≤ len') (hk : len + k ≤ len' + k') : KRel text p0 len' k' ks1 ks2 :=
  ⟨h.1.mono hl, fun _ _ _ hi hle hf => h.2 hi (by omega) hf⟩

/-- a related continuation is offered the data after a `CONSUME` that read `v` -/
theorem KRel.consume {text : Bytes} {p0 k n : Nat} {d : Data} {v : Bytes} {ks1 ks2 fk1 fk2}
    (h : KRel text p0 d.cur.length k ks1 ks2) (hinv : Inv text p0 d) (hv : readAt text d.pos n = v) (hk : k ≤ v.length)
    (hfk : (fk1 ()).map pr = fk2 ()) :
    (ks1 (consumeD text d n) fk1).map pr = ks2 ⟨d.pos + v.length, d.env⟩ fk2 := by
  subst hv
  exact h.2 (inv_consume hinv n) (by rw [consumeD_length]; exact Nat.add_le_add_left hk _) hfk

/-- `mb1` (vore semantics) simulates `mb2` (regex semantics), both consuming at least `k` bytes -/
def Sim (text : Bytes) (p0 k : Nat) (mb1 : Data → SK → FK → Option SRes)
    (mb2 : St → RSK → RFK → Option RRes) : Prop :=
  ∀ ⦃d ks1 ks2 fk1 fk2⦄, Inv text p0 d → KRel text p0 d.cur.length k ks1 ks2 → (fk1 ()).map pr = fk2 () →
    (mb1 d ks1 fk1).map pr = mb2 (proj d) ks2 fk2

theorem Sim.mono {text : Bytes} {p0 k k' : Nat} {mb1 mb2} (h : Sim text p0 k mb1 mb2) (hk : k' ≤ k) :
    Sim text p0 k' mb1 mb2 :=
  fun _ _ _ _ _ hinv hks hfk => h hinv (hks.mono (Nat.le_refl _) (by omega)) hfk

theorem sim_byte {text : Bytes} {p0 : Nat} {A : Data → Option Data} {pred : UInt8 → Bool}
    (hA : ∀ d, A d = byteD text pred d) :
    Sim text p0 1 (fun d ks fk => match A d with | some d' => ks d' fk | none => fk ()) (one text pred) := by
  intro d ks1 ks2 fk1 fk2 hinv hks hfk
  simp only [hA, byteD, one, proj]
  cases hb : text[d.pos]? with
  | none => exact hfk
  | some b =>
    by_cases hp : pred b = true
    · have hr : readAt text d.pos 1 = [b] := by rw [readAt_one, hb]; rfl
      simpa [hp] using hks.consume hinv hr (Nat.le_refl 1) hfk
    · simpa [hp] using hfk

/-- `[abc]`: the items are tried one after the other, and a linear continuation cannot tell -/
theorem inAlts_byte {text : Bytes} {ks : SK} {d : Data} (hl : LinF (ks (consumeD text d 1))) (fk : FK) :
    ∀ items : List ClsItem,
    inAlts text (items.map ClsItem.toAtom) d ks fk =
      match byteD text (fun b => items.any (fun i => i.mem b)) d with | some d' => ks d' fk | none => fk ()
  | [] => by simp only [List.map_nil, inAlts, byteD, List.any_nil]; cases text[d.pos]? <;> rfl
  | i :: rest => by
    simp only [List.map_cons, inAlts, itemD_byte, inAlts_byte hl fk rest, byteD, List.any_cons]
    cases text[d.pos]? with
    | none => rfl
    | some b => cases hm : i.mem b <;> cases hr : rest.any (fun i => i.mem b) <;> simp [hm, hr, hl.dup]

theorem listMaxSize_items {items : List ClsItem} (hne : items ≠ []) :
    listMaxSize (items.map ClsItem.toAtom) = 1 := by
  have hone : ∀ i : ClsItem, i.toAtom.maxSize = 1 := fun i => by cases i <;> rfl
  have key : ∀ l : List ClsItem,
      (l.map ClsItem.toAtom).foldl (fun m a => if a.maxSize > m then a.maxSize else m) 1 = 1 := by
    intro l; induction l <;> simp [*]
  cases items with
  | nil => exact absurd rfl hne
  | cons i rest => simp [listMaxSize, hone, key]

/-- `[abc]`, `[^abc]`: one byte that is (not) in one of the items -/
theorem inl_byte {text : Bytes} {ks : SK} {d : Data} (hl : LinF (ks (consumeD text d 1))) (lf : Nat) (neg : Bool)
    {items : List ClsItem} (hne : items ≠ []) (fk : FK) :
    Spec.m text lf (.inl neg (items.map ClsItem.toAtom)) d ks fk =
      match byteD text (fun b => items.any (fun i => i.mem b) != neg) d with | some d' => ks d' fk | none => fk () := by
  cases neg with
  | false => simp only [Spec.m, inAlts_byte hl, Bool.bne_false]
  | true =>
    have hpos : (consumeD text d 1).pos = d.pos + text[d.pos]?.toList.length := by rw [← readAt_one]; rfl
    simp only [Spec.m, listMaxSize_items hne, List.any_map, Function.comp_def, itemD_byte, byteD, hpos,
      show (1 : Int).toNat = 1 from rfl]
    cases text[d.pos]? with
    | none => simp
    | some b =>
      have e : ∀ i : ClsItem, (if i.mem b = true then some (consumeD text d 1) else none).isSome = i.mem b :=
        fun i => by cases i.mem b <;> rfl
      simp only [e]
      by_cases hm : items.any (fun i => i.mem b) = true <;> simp [hm]

theorem sim_cls {text : Bytes} {p0 : Nat} (lf : Nat) (neg : Bool) {items : List ClsItem} (hne : items ≠ []) :
    Sim text p0 1 (Spec.m text lf (.inl neg (items.map ClsItem.toAtom)))
      (one text (fun b => items.any (fun i => i.mem b) != neg)) := by
  intro d ks1 ks2 fk1 fk2 hinv hks hfk
  have hg := good_consume hinv.1 1
  rw [inl_byte (hks.1 _ hg.1 hg.2) lf neg hne]
  exact sim_byte (A := byteD text _) (fun _ => rfl) hinv hks hfk

/-- a zero-width test of the position -/
theorem sim_anchor {text : Bytes} {p0 : Nat} {A : Data → Option Data} (cond : Nat → Bool)
    (hA : ∀ d, A d = if cond d.pos then some d else none) :
    Sim text p0 0 (fun d ks fk => match A d with | some d' => ks d' fk | none => fk ())
      (fun s ks fk => if cond s.pos then ks s fk else fk ()) := by
  intro d ks1 ks2 fk1 fk2 hinv hks hfk
  simp only [hA d, proj]
  by_cases hc : cond d.pos = true
  · simp only [hc, if_true]
    exact hks.2 hinv (Nat.le_refl _) hfk
  · simp only [hc]
    exact hfk

theorem readAt_one_eq_nl (text : Bytes) (p : Nat) : (readAt text p 1 == [nl]) = (text[p]? == some 10) := by
  rw [readAt_one]; cases text[p]? <;> simp [nl]

theorem bolD {text : Bytes} (d : Data) :
    classD text .lineStart false d = if (d.pos == 0 || text[d.pos - 1]? == some 10) then some d else none := by
  simp only [classD, anchorD, readAt_one_eq_nl]
  cases (d.pos == 0) <;> cases (text[d.pos - 1]? == some 10) <;> rfl

theorem readAt_two_crnl {text : Bytes} (htext : TextOK text) (p : Nat) : (readAt text p 2 == [cr, nl]) = false := by
  rw [beq_eq_false_iff_ne]
  intro h
  have hmem : cr ∈ readAt text p 2 := by rw [h]; simp
  unfold readAt at hmem
  split at hmem
  · simp at hmem
  · exact (htext cr (List.mem_of_mem_drop (List.mem_of_mem_take hmem))).1 rfl

theorem eolD {text : Bytes} (htext : TextOK text) (d : Data) :
    classD text .lineEnd false d = if (d.pos == text.length || text[d.pos]? == some 10) then some d else none := by
  simp only [classD, anchorD, isLineBreakAt, readAt_two_crnl htext, readAt_one_eq_nl, Bool.or_false]
  cases (text[d.pos]? == some 10) <;> cases (d.pos == text.length) <;> rfl

/-- reading `|v|` bytes gives a non-empty `v` iff `v` occurs there -/
theorem readAt_eq_iff {text : Bytes} {p : Nat} {v : Bytes} (hv : v ≠ []) :
    readAt text p v.length = v ↔ hasAt text p v = true := by
  have hl : v.length ≠ 0 := mt List.length_eq_zero_iff.mp hv
  unfold readAt hasAt
  rw [beq_iff_eq]
  split
  · next h =>
    refine ⟨fun e => absurd e.symm hv, fun e => ?_⟩
    have := congrArg List.length e
    simp only [List.length_take, List.length_drop] at this
    omega
  · rfl

theorem sim_backref {text : Bytes} {p0 : Nat} (x : String) :
    Sim text p0 0 (fun d ks fk => match backrefD text x d with | some d' => ks d' fk | none => fk ())
      (again text x) := by
  intro d ks1 ks2 fk1 fk2 hinv hks hfk
  simp only [again, proj, backrefD]
  cases d.env.get x with
  | none => exact hfk
  | some val =>
    cases val with
    | map mm => exact hfk
    | str v =>
      by_cases hv : v = []
      · subst hv
        simpa [hasAt, proj] using hks.2 hinv (Nat.le_refl _) hfk
      · simp only [List.isEmpty_iff, hv, if_false, litD_plain hv, readAt_eq_iff hv]
        by_cases h : hasAt text d.pos v = true
        · simpa [h] using hks.consume hinv ((readAt_eq_iff hv).mpr h) (Nat.zero_le _) hfk
        · simpa [h] using hfk

theorem sim_empty {text : Bytes} {p0 : Nat} :
    Sim text p0 0 (fun d ks fk => ks d fk) (fun s ks fk => ks s fk) :=
  fun _ _ _ _ _ hinv hks hfk => hks.2 hinv (Nat.le_refl _) hfk

theorem sim_seq {text : Bytes} {p0 ka kb : Nat} {a1 b1 a2 b2 ob} (ha : Sim text p0 ka a1 a2)
    (hb : Sim text p0 kb b1 b2) (hvb : Visits text p0 b1 ob) :
    Sim text p0 (ka + kb) (fun d ks fk => a1 d (fun d' fk' => b1 d' ks fk') fk)
      (fun s ks fk => a2 s (fun s' fk' => b2 s' ks fk') fk) := by
  intro d ks1 ks2 fk1 fk2 hinv hks hfk
  refine ha hinv ⟨fun d' hg' hle => VisitsAt.lin (hvb d' hg') (hks.1.mono hle), ?_⟩ hfk
  exact fun _ _ _ hinv' hle hf => hb hinv' (hks.mono (by omega) (by omega)) hf

theorem sim_alt {text : Bytes} {p0 k : Nat} {a1 b1 a2 b2} (ha : Sim text p0 k a1 a2) (hb : Sim text p0 k b1 b2) :
    Sim text p0 k (fun d ks fk => a1 d ks (fun _ => b1 d ks fk)) (fun s ks fk => a2 s ks (fun _ => b2 s ks fk)) :=
  fun _ _ _ _ _ hinv hks hfk => ha hinv hks (hb hinv hks hfk)

theorem sim_group {text : Bytes} {p0 k : Nat} {b1 b2} (x : String) (hb : Sim text p0 k b1 b2) :
    Sim text p0 k (fun d ks fk => b1 d (fun d' fk' => ks (bindD d' x (d'.cur.drop d.cur.length)) fk') fk)
      (fun s ks fk => b2 s (fun s' fk' => ks { s' with caps := s'.caps.put x (.str (Regex.slice text s.pos s'.pos)) } fk') fk) := by
  intro d ks1 ks2 fk1 fk2 hinv hks hfk
  refine hb hinv ⟨fun d' hg' hle => hks.1 (bindD d' x _) hg' hle, ?_⟩ hfk
  intro d' fk1' fk2' hinv' hle hf
  show _ = ks2 ⟨d'.pos, d'.env.put x (.str (Regex.slice text d.pos d'.pos))⟩ fk2'
  rw [← inv_drop hinv hinv']
  exact hks.2 (d' := bindD d' x _) hinv' hle hf

theorem sim_repeat {text : Bytes} {p0 kb : Nat} {b1 b2 ob} (hb : Sim text p0 kb b1 b2) (hv : Visits text p0 b1 ob) :
    ∀ n, Sim text p0 (n * kb) (Spec.repeatM b1 n) (times b2 n)
  | 0 => (Nat.zero_mul kb).symm ▸ sim_empty
  | n + 1 => (sim_seq hb (sim_repeat hb hv n) (repeat_visits hv n)).mono
      (by rw [Nat.succ_mul, Nat.add_comm]; exact Nat.le_refl _)

/-! ## the loop head: vore's rule against the textbook one -/

/-- vore counts the optional iterations done (`k`, against `mx`, `-1` = unbounded); the textbook counts those left -/
def Bound (mx : Int) (k : Nat) : Option Nat → Prop
  | none => mx = -1
  | some j => mx = (k : Int) + j

theorem Bound.within {mx : Int} {k : Nat} {bound : Option Nat} (h : Bound mx k bound) :
    (mx == -1 || decide ((k : Int) ≤ mx)) = true := by
  cases bound with
  | none => simp [show mx = -1 from h]
  | some j => simp [show (k : Int) ≤ mx by have : mx = k + j := h; omega]

theorem Bound.succ {mx : Int} {k : Nat} {bound : Option Nat} (h : Bound mx k bound) (h0 : bound ≠ some 0) :
    Bound mx (k + 1) (bound.map (· - 1)) := by
  cases bound with
  | none => exact h
  | some j =>
    have hj : j ≠ 0 := fun e => h0 (e ▸ rfl)
    simp only [Bound, Option.map_some] at h ⊢
    omega

/-- with `max` iterations done vore visits the head once more: the body runs, each of its successes finds the
count exceeded and is turned down, and what is left is the exit -/
theorem loopV_at_max {text : Bytes} {p0 : Nat} {b1 ob} (hv : Visits text p0 b1 ob) {fewest : Bool} {f k : Nat}
    {d : Data} (hg : Good text p0 d) (ks : SK) (fk : FK) :
    loopV b1 (k : Int) fewest (f + 2) k d ks fk = ks d fk := by
  have hK : ∀ (X : FK), b1 d (fun d' fk' =>
      if d'.cur.length == d.cur.length then fk' () else loopV b1 (k : Int) fewest (f + 1) (k + 1) d' ks fk') X = X () := by
    intro X
    refine VisitsAt.total (Q := (· = X ())) (hv d hg) _ _ (fun d' fk' _ _ hq => ?_) rfl
    have hc : ((k : Int) == -1 || decide (((k + 1 : Nat) : Int) ≤ (k : Int))) = false := by
      rw [Bool.or_eq_false_iff, beq_eq_false_iff_ne, decide_eq_false_iff_not]; omega
    simp only [loopV, hc, Bool.false_eq_true, if_false, ite_self]
    exact hq
  have hc : ((k : Int) == -1 || decide ((k : Int) ≤ (k : Int))) = true := by simp
  rw [loopV]
  simp only [hc, if_true, hK]
  cases fewest <;> rfl

/-- the loop heads, by induction on vore's fuel: an iteration consumes, and vore's head is visited once more than
the textbook's (`loopV_at_max`), whence its one unit of fuel more -/
theorem sim_loopV {text : Bytes} {p0 : Nat} {b1 b2 ob} (hb : Sim text p0 1 b1 b2) (hv : Visits text p0 b1 ob)
    (mxI : Int) (fewest : Bool) :
    ∀ (fuel1 fuel2 k : Nat) {bound : Option Nat} {d ks1 ks2 fk1 fk2},
      Inv text p0 d → Bound mxI k bound →
      text.length + 2 ≤ fuel1 + d.cur.length → text.length + 1 ≤ fuel2 + d.cur.length →
      KRel text p0 d.cur.length 0 ks1 ks2 → (fk1 ()).map pr = fk2 () →
      (loopV b1 mxI fewest fuel1 k d ks1 fk1).map pr = more b2 fewest fuel2 bound (proj d) ks2 fk2 := by
  intro fuel1
  induction fuel1 with
  | zero => intro fuel2 k bound d _ _ _ _ hinv _ h1 _; have := good_len hinv.1; omega
  | succ fuel1 ih =>
    intro fuel2 k bound d ks1 ks2 fk1 fk2 hinv hR h1 h2 hks hfk
    have hlen := good_len hinv.1
    obtain ⟨fuel2, rfl⟩ := Nat.exists_eq_add_one_of_ne_zero (show fuel2 ≠ 0 by omega)
    have hhere := hks.2 hinv (Nat.le_refl _) hfk
    by_cases hb0 : bound = some 0
    · -- the bound is used up
      subst hb0
      obtain rfl : mxI = (k : Int) := by simpa [Bound] using hR
      obtain ⟨f', rfl⟩ := Nat.exists_eq_add_one_of_ne_zero (show fuel1 ≠ 0 by omega)
      rw [loopV_at_max hv hinv.1]
      simpa [more] using hhere
    · -- one more iteration is allowed; the continuation after it, on both sides
      have hK : KRel text p0 d.cur.length 1
          (fun d' fk' => if d'.cur.length == d.cur.length then fk' () else loopV b1 mxI fewest fuel1 (k + 1) d' ks1 fk')
          (fun s' fk' => more b2 fewest fuel2 (bound.map (· - 1)) s' ks2 fk') := by
        refine ⟨fun d' hg' hle => LinF.ite (fun _ => LinF.pass) (fun _ => ?_), fun d' fk1' fk2' hinv' hle hf => ?_⟩
        · exact (loop_visits hv mxI fewest fuel1 (k + 1) d' hg' (by omega)).lin (hks.1.mono hle)
        · have hne : (d'.cur.length == d.cur.length) = false := by rw [beq_eq_false_iff_ne]; omega
          simp only [hne, Bool.false_eq_true, if_false]
          exact ih fuel2 (k + 1) hinv' (hR.succ hb0) (by omega) (by omega) (hks.mono (by omega) (by omega)) hf
      simp only [loopV, hR.within, if_true, more, beq_eq_false_iff_ne.mpr hb0, Bool.false_eq_true, if_false]
      cases fewest with
      | true => exact hks.2 hinv (Nat.le_refl _) (hb hinv hK hfk)
      | false => exact hb hinv hK hhere

def _root_.Vore.Regex.Quant.wf : Quant → Bool
  | .between lo hi => lo ≤ hi
  | _ => true

/-- what the semantic proof uses of `Re.sup`: bracket classes are not empty and `{m,n}` has `m ≤ n` -/
def _root_.Vore.Regex.Re.semOK : Re → Bool
  | .seq a b | .alt a b => a.semOK && b.semOK
  | .cls _ items => !items.isEmpty
  | .group _ r | .ncgroup r | .named _ r => r.semOK
  | .rep r q _ => r.semOK && q.wf
  | _ => true

theorem semOK_of_sup : ∀ r : Re, r.sup = true → r.semOK = true := by
  intro r
  induction r with
  | seq a b iha ihb | alt a b iha ihb =>
    simp only [Re.sup, Re.semOK, Bool.and_eq_true]
    exact fun h => ⟨iha (by simp only [h]), ihb (by simp only [h])⟩
  | rep r q lz ih =>
    simp only [Re.sup, Re.semOK, Bool.and_eq_true]
    exact fun h => ⟨ih h.1.2, by cases q <;> simp_all [Quant.wf, Quant.ok]⟩
  | group _ r ih | named _ r ih | ncgroup r ih =>
    simp only [Re.sup, Re.semOK, Bool.and_eq_true]
    exact fun h => ih h.2
  | cls neg items => simp only [Re.sup, Re.semOK, Bool.and_eq_true]; exact fun h => h.1
  | _ => exact fun _ => rfl

theorem callFree_of_semOK : ∀ r : Re, r.semOK = true → CallFree r.toExpr := by
  intro r
  induction r with
  | seq a b iha ihb | alt a b iha ihb =>
    simp only [Re.semOK, Re.toExpr, CallFree, Bool.and_eq_true, and_true]
    exact fun h => ⟨iha h.1, ihb h.2⟩
  | rep r q lz ih =>
    simp only [Re.semOK, Re.toExpr, CallFree, Bool.and_eq_true, true_and]
    exact fun h => ih h.1
  | group _ r ih | named _ r ih | ncgroup r ih => simpa only [Re.semOK, Re.toExpr, CallFree, and_true] using ih
  -- an `in` list must not be empty
  | cls neg items => exact fun h => .inr (by simpa [Re.semOK] using h)
  | _ => exact fun _ => trivial

theorem quant_cases (q : Quant) (hq : q.wf = true) :
    (q.max = some q.min ∧ ((q.min : Int) == q.maxInt) = true) ∨
    (q.max ≠ some q.min ∧ ((q.min : Int) == q.maxInt) = false ∧
      Bound (if q.maxInt > 0 then q.maxInt - q.min else q.maxInt) 0 (q.max.map (· - q.min))) := by
  cases q with
  | star | plus | opt => right; simp [Quant.max, Quant.min, Quant.maxInt, Bound]
  | exact m => left; simp [Quant.max, Quant.min, Quant.maxInt]
  | atLeast m =>
    right
    refine ⟨by simp [Quant.max], ?_, by simp [Quant.max, Quant.maxInt, Bound]⟩
    simp only [Quant.min, Quant.maxInt, beq_eq_false_iff_ne, ne_eq]
    omega
  | between m n =>
    simp only [Quant.wf, decide_eq_true_eq] at hq
    by_cases hmn : n = m
    · left; subst hmn; simp [Quant.max, Quant.min, Quant.maxInt]
    · right
      refine ⟨by simp [Quant.max, Quant.min, hmn], ?_, ?_⟩
      · simp only [Quant.min, Quant.maxInt, beq_eq_false_iff_ne, ne_eq]; omega
      · have hpos : (n : Int) > 0 := by omega
        simp only [Quant.max, Quant.min, Quant.maxInt, Option.map_some, Bound, hpos, if_true]
        omega

/-- `r{m,n}` and its kin: the mandatory copies, then the loop head unless the count is exact -/
theorem sim_rep {text : Bytes} {p0 kb lf1 lf2 : Nat} {b1 b2 ob} (hb : Sim text p0 kb b1 b2) (hv : Visits text p0 b1 ob)
    (q : Quant) (lz : Bool) (hq : q.wf = true)
    (hk : q.max ≠ some q.min → 1 ≤ kb) (h1 : text.length + 2 ≤ lf1) (h2 : text.length + 1 ≤ lf2) :
    Sim text p0 (q.min * kb)
      (fun d ks fk => Spec.repeatM b1 q.min d (fun d' fk' =>
        if (q.min : Int) == q.maxInt then ks d' fk'
        else loopV b1 (if q.maxInt > 0 then q.maxInt - q.min else q.maxInt) lz lf1 0 d' ks fk') fk)
      (fun s ks fk => times b2 q.min s (fun s' fk' => more b2 lz lf2 (q.max.map (· - q.min)) s' ks fk') fk) := by
  intro d ks1 ks2 fk1 fk2 hinv hks hfk
  refine sim_repeat hb hv q.min hinv ⟨fun d' hg' hle => ?_, fun d' fk1' fk2' hinv' hle hf => ?_⟩ hfk
  · exact LinF.ite (fun _ => hks.1 d' hg' hle)
      (fun _ => VisitsAt.lin (loop_visits hv _ lz lf1 0 d' hg' (by omega)) (hks.1.mono hle))
  · have hks' : KRel text p0 d'.cur.length 0 ks1 ks2 := hks.mono (by omega) (by omega)
    obtain ⟨lf2', rfl⟩ := Nat.exists_eq_add_one_of_ne_zero (show lf2 ≠ 0 by omega)
    rcases quant_cases q hq with ⟨hmax, heq⟩ | ⟨hmax, heq, hR⟩
    · simp only [heq, if_true, hmax, Option.map_some, Nat.sub_self, more, beq_self_eq_true]
      exact hks'.2 hinv' (Nat.le_refl _) hf
    · simp only [heq, Bool.false_eq_true, if_false]
      exact sim_loopV (hb.mono (hk hmax)) hv _ lz lf1 (lf2' + 1) 0 hinv' hR (by omega) (by omega) hks' hf

theorem k_seq (x y : Bool) :
    (if (x && y) = true then 0 else 1) ≤ (if x = true then 0 else 1) + (if y = true then 0 else 1) := by
  cases x <;> cases y <;> simp
theorem k_alt_l (x y : Bool) : (if (x || y) = true then 0 else 1) ≤ (if x = true then 0 else 1) := by
  cases x <;> cases y <;> simp
theorem k_alt_r (x y : Bool) : (if (x || y) = true then 0 else 1) ≤ (if y = true then 0 else 1) := by
  cases x <;> cases y <;> simp
theorem k_rep (n : Nat) (x : Bool) :
    (if (n == 0 || x) = true then 0 else 1) ≤ n * (if x = true then 0 else 1) := by
  cases x <;> cases n <;> simp

theorem sim_m {text : Bytes} {p0 lf1 lf2 : Nat} (htext : TextOK text)
    (h1 : text.length + 2 ≤ lf1) (h2 : text.length + 1 ≤ lf2) :
    ∀ r : Re, r.semOK = true → r.nnb = true →
      Sim text p0 (if r.nullable then 0 else 1) (Spec.m text lf1 r.toExpr) (Regex.m text lf2 r) := by
  have hvis : ∀ r : Re, Visits text p0 (Spec.m text lf1 r.toExpr) (outs text lf1 r.toExpr) :=
    fun r => m_visits lf1 (by omega) _
  intro r
  induction r with
  | empty => exact fun _ _ => sim_empty
  | seq a b iha ihb =>
    intro h hn
    simp only [Re.semOK, Re.nnb, Bool.and_eq_true] at h hn
    exact (sim_seq (iha h.1 hn.1) (ihb h.2 hn.2) (hvis b)).mono (k_seq _ _)
  | chr c => exact fun _ _ => sim_byte fun d => by simp only [atomD, litD_byte, Bool.bne_false]
  | dot => exact fun _ _ => sim_byte fun d => by simp only [atomD, litD_byte, bne, beq_true]
  | bol => exact fun _ _ => sim_anchor (fun p => p == 0 || text[p - 1]? == some 10) bolD
  | eol => exact fun _ _ => sim_anchor (fun p => p == text.length || text[p]? == some 10) (eolD htext)
  | digit neg => exact fun _ _ => sim_byte (rangeD_byte text 48 57 neg)
  | space neg => exact fun _ _ => sim_byte (spaceD_byte htext neg)
  | cls neg items => exact fun h _ => sim_cls lf1 neg (by simpa [Re.semOK] using h)
  | group n r ih => exact fun h hn => sim_group (numName n) (ih h hn)
  | ncgroup _ ih => exact ih
  | named nm r ih => exact fun h hn => sim_group (nameStr nm) (ih h hn)
  | backref n => exact fun _ _ => sim_backref (numName n)
  | backrefNamed nm => exact fun _ _ => sim_backref (nameStr nm)
  | alt a b iha ihb =>
    intro h hn
    simp only [Re.semOK, Re.nnb, Bool.and_eq_true] at h hn
    exact sim_alt ((iha h.1 hn.1).mono (k_alt_l _ _)) ((ihb h.2 hn.2).mono (k_alt_r _ _))
  | rep r q lz ih =>
    intro h hn
    simp only [Re.semOK, Re.nnb, Bool.and_eq_true, Bool.or_eq_true, beq_iff_eq, Bool.not_eq_true'] at h hn
    refine (sim_rep (ih h.1 hn.1) (hvis r) q lz h.2 (fun hmax => ?_) h1 h2).mono (k_rep _ _)
    -- unless the count is exact the body is not nullable (`nnb`), so it consumes: what the loop head asks of it
    simp [hn.2.resolve_left hmax]

def spanOfMatch (mt : Match) : Span := ⟨mt.startPos, mt.endPos, mt.vars⟩

theorem attempt_regex {text : Bytes} {lf1 lf2 : Nat} (htext : TextOK text)
    (h1 : text.length + 2 ≤ lf1) (h2 : text.length + 1 ≤ lf2) (r : Re) (hr : r.semOK = true) (hn : r.nnb = true)
    (pos line col : Nat) (hpos : pos ≤ text.length) :
    (Spec.attempt text lf1 r.toExpr pos line col).map pr = Regex.attempt text lf2 r pos := by
  unfold Spec.attempt Regex.attempt
  exact sim_m (p0 := pos) htext h1 h2 r hr hn (d := ⟨pos, line, col, [], .nil⟩) ⟨⟨hpos, rfl⟩, by simp⟩
    ⟨fun _ _ _ => LinF.const _, fun _ _ _ _ _ _ => rfl⟩ rfl

theorem scanAll_regex {text : Bytes} {lf1 lf2 : Nat} (htext : TextOK text)
    (h1 : text.length + 2 ≤ lf1) (h2 : text.length + 1 ≤ lf2) (r : Re) (hr : r.semOK = true) (hn : r.nnb = true) :
    ∀ f acc pos line col, pos < text.length → text.length < f + pos →
      (Spec.scanAll text lf1 r.toExpr f acc pos line col).map (List.map spanOfMatch) =
        (Regex.scan text lf2 r f pos).map (fun l => acc.map spanOfMatch ++ l) := by
  intro f
  induction f with
  | zero => intro acc pos line col _ hf; omega
  | succ f ih =>
    intro acc pos line col hpos hfuel
    obtain ⟨s, hs, hgood⟩ := attempt_total text lf1 (by omega) r.toExpr pos line col (Nat.le_of_lt hpos)
    -- vore looks for the end of the text before it moves on, the textbook scan when it arrives
    have hstop : ∀ p, p ≥ text.length → Regex.scan text lf2 r f p = some [] := by
      intro p hp
      cases f with
      | zero => omega
      | succ f => simp [Regex.scan, hp]
    have hstep : (Spec.scanAllWith.step1 text (Spec.attempt text lf1 r.toExpr) f acc pos line col).map (List.map spanOfMatch) =
        (Regex.scan text lf2 r f (pos + 1)).map (fun l => acc.map spanOfMatch ++ l) := by
      unfold Spec.scanAllWith.step1
      rw [readAt_one, List.getElem?_eq_getElem hpos]
      simp only [Option.toList]
      by_cases hend : pos + 1 ≥ text.length
      · simp [hend, hstop _ hend]
      · simp only [hend, if_false]
        split <;> exact ih acc (pos + 1) _ _ (by omega) (by omega)
    unfold Spec.scanAll Spec.scanAllWith Regex.scan
    have hnge : ¬ pos ≥ text.length := by omega
    simp only [hnge, if_false]
    rw [← attempt_regex htext h1 h2 r hr hn pos line col (Nat.le_of_lt hpos), hs]
    cases s with
    | fail => exact hstep
    | matched d =>
      simp only [Option.map_some, pr, proj]
      -- non-empty for vore is ending beyond `pos` for the textbook scan
      have hcons : (d.cur.length != 0) = true ↔ d.pos > pos := by
        have := (hgood d rfl).2
        simp only [bne_iff_ne]; omega
      simp only [hcons]
      by_cases hpd : d.pos > pos
      · simp only [hpd, if_true]
        by_cases hend : d.pos ≥ text.length
        · simp [hend, hstop _ hend, Spec.matchOfData, spanOfMatch]
        · simp only [hend, if_false]
          rw [ih _ d.pos d.line d.col (by omega) (by omega)]
          cases Regex.scan text lf2 r f d.pos <;> simp [Spec.matchOfData, spanOfMatch]
      · simp only [hpd, if_false]
        exact hstep

/-- **same non-empty spans, same order, same group texts** -/
theorem findAll_regex {text : Bytes} (htext : TextOK text) (r : Re) (hr : r.semOK = true) (hn : r.nnb = true) :
    (Spec.findAll text r.toExpr).map (List.map spanOfMatch) = Regex.findAll r text := by
  unfold Spec.findAll Regex.findAll
  by_cases h0 : text.length = 0
  · simp [h0, Regex.scan]
  · simp only [h0, if_false]
    have := scanAll_regex htext (Nat.le_refl _) (Nat.le_succ _) r hr hn (text.length + 1) [] 0 1 1 (by omega) (by omega)
    simpa using this

end Vore.Rx


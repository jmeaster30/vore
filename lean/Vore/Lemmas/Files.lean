import Vore.Model.Files
/-!
# Vore.Lemmas.Files — the window invariant of `BufferedFile`, and the file reader as a refinement
of the in-memory reader
-/
namespace Vore.Files

/-- The window invariant.  `buffer[0, max-min) = file[min, max)`, the window lies inside the
file, is at most one buffer long, and the cursor is never left of it. -/
structure Inv (B : Nat) (file : Bytes) (v : BufferedFile) : Prop where
  file_eq : v.file = file
  size_eq : v.fileSize = file.length
  bsize : v.bufferSize = B
  blen : v.buffer.length = B
  bpos : 1 ≤ B
  min_nonneg : 0 ≤ v.minOffset
  min_le_cur : v.minOffset ≤ v.currentOffset
  min_le_max : v.minOffset ≤ v.maxOffset
  max_le_size : v.maxOffset ≤ file.length
  win_le : v.maxOffset - v.minOffset ≤ B
  content : ∀ i : Nat, (i : Int) < v.maxOffset - v.minOffset →
    v.buffer[i]? = file[v.minOffset.toNat + i]?

theorem Inv.advance {B : Nat} {file : Bytes} {v : BufferedFile} (h : Inv B file v) (c : Int)
    (hc : v.currentOffset ≤ c) : Inv B file { v with currentOffset := c } :=
  { h with min_le_cur := Int.le_trans h.min_le_cur hc }

theorem overwrite_length (buf got : Bytes) (h : got.length ≤ buf.length) :
    (overwrite buf got).length = buf.length := by
  simp only [overwrite, List.length_append, List.length_drop]; omega

theorem overwrite_getElem? (buf got : Bytes) (i : Nat) (h : i < got.length) :
    (overwrite buf got)[i]? = got[i]? := by
  rw [overwrite, List.getElem?_append_left h]

variable {B : Nat} {file : Bytes} {v : BufferedFile}

theorem Inv.refill (h : Inv B file v) (s : Nat) (t : Int) (hst : s ≤ t) (hsz : s ≤ file.length) :
    Inv B file { v with buffer := overwrite v.buffer ((file.drop s).take B),
                        minOffset := s,
                        maxOffset := s + ((file.drop s).take B).length,
                        currentOffset := t } := by
  have hgl : ((file.drop s).take B).length = min B (file.length - s) := by
    rw [List.length_take, List.length_drop]
  have hbl := h.blen
  refine { h with min_nonneg := Int.natCast_nonneg s, min_le_cur := hst, blen := ?_, min_le_max := ?_,
                  max_le_size := ?_, win_le := ?_, content := ?_ }
  · show (overwrite v.buffer _).length = B
    rw [overwrite_length _ _ (by omega), hbl]
  · show (s : Int) ≤ s + _; omega
  · show (s : Int) + _ ≤ _; omega
  · show (s : Int) + _ - s ≤ _; omega
  · intro i hi
    have hi' : i < ((file.drop s).take B).length := by
      have : (i : Int) < s + ((file.drop s).take B).length - s := hi
      omega
    show (overwrite v.buffer _)[i]? = file[(s : Int).toNat + i]?
    rw [overwrite_getElem? _ _ _ hi', List.getElem?_take, List.getElem?_drop, if_pos (by omega),
      Int.toNat_natCast]

/-- for every file, the empty one included (`fixes/C07-emptyfile.diff`) -/
theorem new_inv (B : Nat) (hB : 1 ≤ B) (file : Bytes) :
    Inv B file (NewBufferedFileB B file file.length) := by
  have h0 : Inv B file ⟨file, file.length, List.replicate B 0, B, 0, 0, 0⟩ :=
    ⟨rfl, rfl, rfl, List.length_replicate, hB, Int.le_refl 0, Int.le_refl 0, Int.le_refl 0,
      Int.natCast_nonneg _, by show (0 : Int) - 0 ≤ B; omega,
      fun i hi => by have : (i : Int) < 0 - 0 := hi; omega⟩
  simpa [NewBufferedFileB, osReadFirst] using h0.refill 0 0 (Int.le_refl 0) (Nat.zero_le _)

theorem newStart_spec (v : BufferedFile) (t : Int) (hB : 1 ≤ v.bufferSize) (hs : 0 ≤ v.fileSize)
    (ht : 0 ≤ t) :
    0 ≤ v.newStart t ∧ v.newStart t ≤ t ∧ v.newStart t ≤ v.fileSize ∧
    (t < v.fileSize → t < v.newStart t + v.bufferSize) := by
  simp only [BufferedFile.newStart]
  omega

theorem seek_spec (h : Inv B file v) (off : Int) (w : Whence) (hw : w ≠ .end_) (t : Int)
    (ht : t = if w = .start then off else v.currentOffset + off) :
    (t < 0 → v.Seek off w = (v, .error .negativeSeek)) ∧
    (0 ≤ t → ∃ v', v.Seek off w = (v', .ok t) ∧ Inv B file v' ∧ v'.currentOffset = t ∧
      (t < file.length → t < v'.maxOffset)) := by
  unfold BufferedFile.Seek
  split
  · exact absurd rfl hw
  simp only [← ht]
  refine ⟨fun ht => if_pos ht, fun ht => ?_⟩
  rw [if_neg (Int.not_lt.mpr ht)]
  split
  · -- outside the window: read a new one around the target
    obtain ⟨h0, h1, h2, h3⟩ := newStart_spec v t (by have := h.bsize; have := h.bpos; omega)
      (by have := h.size_eq; omega) ht
    obtain ⟨s, hs⟩ := Int.eq_ofNat_of_zero_le h0
    rw [hs] at h1 h2 h3 ⊢
    rw [h.size_eq] at h2 h3
    rw [h.bsize] at h3
    have hrd : osReadAt v.file v.buffer.length s =
        .ok ((file.drop s).take B, decide (((file.drop s).take B).length < B)) := by
      rw [osReadAt, if_neg (by omega), h.file_eq, h.blen, Int.toNat_natCast]
    rw [hrd]
    refine ⟨_, rfl, h.refill s t h1 (by omega), rfl, fun hlt => ?_⟩
    show t < s + (((file.drop s).take B).length : Int)
    have := h3 hlt
    rw [List.length_take, List.length_drop]
    omega
  · next hwin =>
    exact ⟨_, rfl, { h with min_le_cur := by show v.minOffset ≤ t; omega }, rfl,
      fun _ => by show t < v.maxOffset; omega⟩

theorem copyLoop_spec (k : Nat) : ∀ (v : BufferedFile) (c : Nat), Inv B file v → v.currentOffset = c →
    ∃ m : Nat, v.copyLoop k = .ok ({ v with currentOffset := ↑(c + m) }, (file.drop c).take m) ∧
      ((file.drop c).take m).length = m ∧ (m = k ∨ m < k ∧ v.maxOffset ≤ ↑(c + m)) := by
  induction k with
  | zero => exact fun v c _ hc => ⟨0, by rw [BufferedFile.copyLoop, Nat.add_zero, ← hc, List.take_zero], rfl, .inl rfl⟩
  | succ k ih =>
    intro v c h hc
    rw [BufferedFile.copyLoop]
    split
    · next hlt =>
      have hmc := h.min_le_cur
      have hmn := h.min_nonneg
      have hcl : c < file.length := by have := h.max_le_size; omega
      have hb : v.buffer[(v.currentOffset - v.minOffset).toNat]? = some file[c] := by
        rw [h.content _ (by omega), ← List.getElem?_eq_getElem hcl]
        congr 1
        omega
      obtain ⟨m, hcopy, hlen, hstop⟩ :=
        ih _ (c + 1) (h.advance (v.currentOffset + 1) (by omega)) (by rw [hc]; rfl)
      refine ⟨m + 1, ?_, ?_, ?_⟩
      · rw [if_neg (by omega), hb, hcopy, List.drop_eq_getElem_cons hcl, List.take_succ_cons, Nat.add_right_comm]
        rfl
      · rw [List.drop_eq_getElem_cons hcl, List.take_succ_cons, List.length_cons, hlen]
      · simp only at hstop
        omega
    · exact ⟨0, by rw [Nat.add_zero, ← hc, List.take_zero], rfl, .inr ⟨Nat.succ_pos k, by omega⟩⟩

/-- The budget of `readLoop_spec` one iteration on, when that iteration stopped short (`m < w`) at the end
of the window: if it started inside the window it copied at least one byte. -/
theorem fuel_step {w m b c : Nat} {cur max : Int} (hc : cur = c) (hmw : m < w) (hmax : max ≤ ↑(c + m))
    (hf : w < b + 1 ∨ cur < max ∧ w ≤ b + 1 ∧ 0 < b + 1) : w - m ≤ b ∧ 0 < b := by
  omega

/-- `w` bytes still wanted, cursor at `c`.  `w + 1` iterations are enough, one less when the cursor is
inside the window: every iteration but the first starts there and copies at least one byte. -/
theorem readLoop_spec (n : Nat) : ∀ (b : Nat) (v : BufferedFile) (out : Bytes) (w c : Nat) (res : Bytes),
    Inv B file v → out.length + w = n → v.currentOffset = c → res = out ++ (file.drop c).take w →
    (w < b ∨ v.currentOffset < v.maxOffset ∧ w ≤ b ∧ 0 < b) →
    ∃ v', Inv B file v' ∧ v'.currentOffset = ↑(c + ((file.drop c).take w).length) ∧
      ∀ fuel, b ≤ fuel → v.readLoop n fuel out =
        .ret v' res (if res.length = n then none else if res.length = 0 then some .eof else none) := by
  intro b
  induction b with
  | zero => intro v out w c res _ _ _ _ hf; omega
  | succ b ih =>
    -- the hypothesis on `b` stays in the goal until the one case that needs it
    intro v out w c res h hw hc hres
    obtain ⟨m, hcopy, htm, hstop⟩ := copyLoop_spec w v c h hc
    have h1 := h.advance ↑(c + m) (by omega)
    have hwn : n - out.length = w := by rw [← hw, Nat.add_sub_cancel_left]
    have hlen : (out ++ (file.drop c).take m).length = out.length + m := by rw [List.length_append, htm]
    have hfuel : ∀ fuel, b + 1 ≤ fuel → ∃ f, b ≤ f ∧ fuel = f + 1
      | 0, hb => absurd hb (Nat.not_succ_le_zero b)
      | f + 1, hb => ⟨f, Nat.le_of_succ_le_succ hb, rfl⟩
    rcases hstop with rfl | ⟨hmw, hmax⟩
    · -- everything asked for has been copied
      subst hres
      refine fun _ => ⟨_, h1, by rw [htm], fun fuel hb => ?_⟩
      obtain ⟨f, _, rfl⟩ := hfuel fuel hb
      simp only [BufferedFile.readLoop, hwn, hcopy, hlen, if_pos hw]
    · have hne : ¬ out.length + m = n := by omega
      have hsplit : (file.drop c).take w = (file.drop c).take m ++ (file.drop (c + m)).take (w - m) := by
        rw [← List.drop_drop, ← List.take_add, Nat.add_sub_cancel' (Nat.le_of_lt hmw)]
      by_cases heof : v.fileSize ≤ ↑(c + m)
      · -- the window ended at the end of the file
        have hnil : file.drop (c + m) = [] := List.drop_eq_nil_of_le (Int.ofNat_le.mp (h.size_eq ▸ heof))
        rw [hsplit, hnil, List.take_nil, List.append_nil] at hres ⊢
        subst hres
        refine fun _ => ⟨_, h1, by rw [htm], fun fuel hb => ?_⟩
        obtain ⟨f, _, rfl⟩ := hfuel fuel hb
        simp only [BufferedFile.readLoop, hwn, hcopy, hlen, if_neg hne, ge_iff_le, if_pos heof]
        exact (apply_ite _ _ _ _).symm
      · -- re-centre the window and go round again, now with the cursor inside it
        intro hf
        have hlt : (↑(c + m) : Int) < file.length := by rw [← h.size_eq]; exact Int.not_le.mp heof
        obtain ⟨v2, hseek, hinv2, hcur2, hwin2⟩ :=
          (seek_spec h1 0 .current (by decide) ↑(c + m) (by simp)).2 (Int.natCast_nonneg _)
        obtain ⟨v', hinv', hcur', hrec⟩ := ih v2 (out ++ (file.drop c).take m) (w - m) (c + m) res hinv2
          (by rw [hlen]; omega) hcur2
          (by rw [hres, hsplit, List.append_assoc])
          (.inr ⟨by rw [hcur2]; exact hwin2 hlt, fuel_step hc hmw hmax hf⟩)
        refine ⟨v', hinv', by rw [hcur', hsplit, List.length_append, htm, Nat.add_assoc], fun fuel hb => ?_⟩
        obtain ⟨f, hbf, rfl⟩ := hfuel fuel hb
        simp only [BufferedFile.readLoop, hwn, hcopy, hlen, if_neg hne, ge_iff_le, if_neg heof, hseek]
        exact hrec f hbf

theorem Inv.cur_nat (h : Inv B file v) : ∃ c : Nat, v.currentOffset = c :=
  ⟨_, (Int.toNat_of_nonneg (Int.le_trans h.min_nonneg h.min_le_cur)).symm⟩

theorem read_spec (h : Inv B file v) (n c : Nat) (hc : v.currentOffset = c) :
    ∃ v', Inv B file v' ∧ v'.currentOffset = ↑(c + ((file.drop c).take n).length) ∧
      ∀ fuel, n + 1 ≤ fuel → v.ReadFuel fuel n =
        .ret v' ((file.drop c).take n) (if 0 < n ∧ file.length ≤ c then some .eof else none) := by
  have herr : (if 0 < n ∧ file.length ≤ c then some IOErr.eof else none) =
      if ((file.drop c).take n).length = n then none
      else if ((file.drop c).take n).length = 0 then some IOErr.eof else none := by
    rw [List.length_take, List.length_drop]
    by_cases heof : 0 < n ∧ file.length ≤ c
    · rw [if_pos heof, if_neg (by omega), if_pos (by omega)]
    · rw [if_neg heof]
      split
      · rfl
      · rw [if_neg (by omega)]
  rw [herr]
  exact readLoop_spec n (n + 1) v [] n c _ h (Nat.zero_add n) hc (List.nil_append _).symm (.inl (Nat.lt_succ_self n))

theorem read_terminates (h : Inv B file v) (n fuel : Nat) (hf : n + 1 ≤ fuel) :
    v.ReadFuel fuel n = v.Read n ∧ v.Read n ≠ .spin := by
  obtain ⟨c, hc⟩ := h.cur_nat
  obtain ⟨v', _, _, hr⟩ := read_spec h n c hc
  rw [BufferedFile.Read, hr fuel hf, hr (n + 1) (Nat.le_refl _)]
  exact ⟨rfl, nofun⟩

/-- the in-memory reader a file reader stands for: the whole file, the cursor where the cursor is -/
def BufferedFile.abs (v : BufferedFile) : StringRSC := ⟨v.file, v.currentOffset⟩

def Reader.abs (r : Reader BufferedFile) : Reader StringRSC := ⟨r.contents.abs, r.offset, r.size⟩

def RInv (B : Nat) (file : Bytes) (r : Reader BufferedFile) : Prop :=
  r.size = file.length ∧ Inv B file r.contents

theorem readerFromFile_inv (B : Nat) (hB : 1 ≤ B) (file : Bytes) :
    RInv B file (ReaderFromFileB B file) := ⟨rfl, new_inv B hB file⟩

/-- `x`, a result of the file reader, against `y`, the result of the same call on the in-memory
reader it stands for: the same string and a state that again satisfies the invariant and stands for
the new in-memory state, or the same panic, which is not an index out of range; no spinning. -/
def Refines (B : Nat) (file : Bytes) (x : RRes BufferedFile) (y : RRes StringRSC) : Prop :=
  match x with
  | .ok r s => RInv B file r ∧ y = .ok r.abs s
  | .panic p => y = .panic p ∧ ∀ i, p ≠ .index i
  | .spin => False

variable {r : Reader BufferedFile}

theorem seek_refines (h : RInv B file r) (off : Int) : Refines B file (r.Seek off) (r.abs.Seek off) := by
  obtain ⟨hneg, hpos⟩ := seek_spec h.2 off .start (by decide) off rfl
  unfold Reader.Seek
  simp only [ReadSeeker.seek, StringRSC.Seek, Reader.abs, BufferedFile.abs]
  by_cases ho : off < 0
  · rw [hneg ho, if_pos ho]
    exact ⟨rfl, fun i hi => by cases hi⟩
  · obtain ⟨c, hs, hi, hc, _⟩ := hpos (by omega)
    rw [hs, if_neg ho]
    exact ⟨⟨h.1, hi⟩, by rw [← hc, h.2.file_eq, ← hi.file_eq]; rfl⟩

theorem readContents_refines (h : RInv B file r) (len : Int) (hl : 0 < len) :
    Refines B file (r.readContents len) (r.abs.readContents len) := by
  obtain ⟨c, hc⟩ := h.2.cur_nat
  obtain ⟨v', hi, hc', hr⟩ := read_spec h.2 len.toNat c hc
  have hn : 0 < len.toNat := by omega
  have habs : v'.abs = ⟨file, (c : Int) + ((file.drop c).take len.toNat).length⟩ := by
    rw [← Int.natCast_add, ← hc', ← hi.file_eq]; rfl
  simp only [Reader.readContents, ReadSeeker.read, BufferedFile.Read, hr _ (Nat.le_refl _), StringRSC.Read,
    Reader.abs, BufferedFile.abs, h.2.file_eq, hc, Int.toNat_natCast, hn, true_and, ge_iff_le, Int.ofNat_le]
  by_cases heof : file.length ≤ c
  · simp only [if_pos heof]
    exact ⟨rfl, fun _ => nofun⟩
  · simp only [if_neg heof, ← habs]
    split <;> exact ⟨⟨h.1, hi⟩, rfl⟩

/-- the bounds check and the `make` in front of `Read` and `ReadAt` -/
theorem guard_refines (h : RInv B file r) (len e : Int) {x : RRes BufferedFile} {y : RRes StringRSC}
    (hk : 0 < len → Refines B file x y) :
    Refines B file (if len = 0 ∨ e ≥ r.size then .ok r [] else if len < 0 then .panic .makeslice else x)
      (if len = 0 ∨ e ≥ r.size then .ok r.abs [] else if len < 0 then .panic .makeslice else y) := by
  by_cases h1 : len = 0 ∨ e ≥ r.size
  · rw [if_pos h1, if_pos h1]; exact ⟨h, rfl⟩
  · by_cases h2 : len < 0
    · rw [if_neg h1, if_neg h1, if_pos h2, if_pos h2]; exact ⟨rfl, fun _ => nofun⟩
    · rw [if_neg h1, if_neg h1, if_neg h2, if_neg h2]; exact hk (by omega)

theorem step_refines (h : RInv B file r) : ∀ op, Refines B file (r.step op) (r.abs.step op)
  | .seek off => seek_refines h off
  | .read len => guard_refines h len _ (readContents_refines h len)
  | .readAt len off => guard_refines h len _ fun hl => by
    have hs := seek_refines h off
    generalize r.Seek off = x at hs ⊢
    cases x with
    | ok r' s => rw [hs.2]; exact readContents_refines hs.1 len hl
    | panic p => rw [hs.1]; exact ⟨rfl, hs.2⟩
    | spin => exact hs.elim

/-- in order: the same observations; the invariant in the final state; no spin; no index out of range -/
theorem runOps_refines (ops : List ROp) : ∀ r, RInv B file r →
    (runOps r ops).1 = (runOps r.abs ops).1 ∧ (∀ r', (runOps r ops).2 = some r' → RInv B file r') ∧
    Obs.spin ∉ (runOps r ops).1 ∧ ∀ i, Obs.panic (.index i) ∉ (runOps r ops).1 := by
  induction ops with
  | nil => exact fun r h => ⟨rfl, fun r' hr => by cases hr; exact h, nofun, fun _ => nofun⟩
  | cons op rest ih =>
    intro r h
    have hs := step_refines h op
    simp only [runOps]
    generalize r.step op = x at hs ⊢
    cases x with
    | ok r' s =>
      obtain ⟨h1, h2, h3, h4⟩ := ih r' hs.1
      simp only [hs.2, List.mem_cons, not_or]
      exact ⟨congrArg _ h1, h2, ⟨nofun, h3⟩, fun i => ⟨nofun, h4 i⟩⟩
    | panic p =>
      simp only [hs.1, List.mem_singleton]
      exact ⟨trivial, fun _ h => (nomatch h), nofun, fun i hi => hs.2 i (by cases hi; rfl)⟩
    | spin => exact hs.elim

theorem runOps_inv (ops : List ROp) (r r' : Reader BufferedFile) (h : RInv B file r)
    (hr : (runOps r ops).2 = some r') : RInv B file r' :=
  (runOps_refines ops r h).2.1 r' hr

/-- `hL` restates the body of `Vore.readAt` (Model/VM.lean is not imported here); `Props/C07.lean`
instantiates `L := Vore.readAt file off n` with `rfl`, the only link between the two. -/
theorem string_law (rs : Reader StringRSC) (hs : rs.contents.s = file) (hsz : rs.size = file.length)
    (n off : Nat) (L : Bytes)
    (hL : L = if n = 0 ∨ off + n > file.length then [] else (file.drop off).take n) :
    (∃ rs', rs.ReadAt n off = .ok rs' L) ∧
    ∃ rs₁ rs₂, rs.Seek off = .ok rs₁ [] ∧ rs₁.Read n = .ok rs₂ L := by
  obtain ⟨⟨s, i⟩, o, sz⟩ := rs
  simp only at hs hsz
  subst hs hsz hL
  have hseek : (⟨⟨s, i⟩, o, s.length⟩ : Reader StringRSC).Seek off =
      .ok ⟨⟨s, off⟩, off, s.length⟩ [] := by
    simp only [Reader.Seek, ReadSeeker.seek, StringRSC.Seek, if_neg (show ¬ (off : Int) < 0 by omega)]
  by_cases hchk : n = 0 ∨ off + n > s.length
  · have hg : (n : Int) = 0 ∨ (off : Int) + n - 1 ≥ s.length := by omega
    rw [if_pos hchk]
    exact ⟨⟨_, if_pos hg⟩, _, _, hseek, if_pos hg⟩
  · have hg : ¬ ((n : Int) = 0 ∨ (off : Int) + n - 1 ≥ s.length) := by omega
    have hn : ¬ (n : Int) < 0 := Int.not_lt.mpr (Int.natCast_nonneg n)
    have hlen : ((s.drop off).take n).length = n := by
      rw [List.length_take, List.length_drop]; omega
    have hrc : (⟨⟨s, off⟩, off, s.length⟩ : Reader StringRSC).readContents n =
        .ok ⟨⟨s, off + ((s.drop off).take n).length⟩, off, s.length⟩ ((s.drop off).take n) := by
      simp only [Reader.readContents, ReadSeeker.read, StringRSC.Read, Int.toNat_natCast,
        if_neg (show ¬ (off : Int) ≥ s.length by omega), hlen, ne_eq, not_true, if_false]
    rw [if_neg hchk, Reader.ReadAt, if_neg hg, if_neg hn, hseek]
    exact ⟨⟨_, hrc⟩, _, _, hseek, by rw [Reader.Read, if_neg hg, if_neg hn, hrc]⟩

theorem Refines.ok {x : RRes BufferedFile} {rs : Reader StringRSC} {s : Bytes} (h : Refines B file x (.ok rs s)) :
    ∃ r', x = .ok r' s ∧ RInv B file r' ∧ r'.abs = rs := by
  cases x with
  | ok r' s' => obtain ⟨hi, he⟩ := h; cases he; exact ⟨r', rfl, hi, rfl⟩
  | panic p => cases h.1
  | spin => exact h.elim

theorem reader_law (h : RInv B file r) (n off : Nat) (L : Bytes)
    (hL : L = if n = 0 ∨ off + n > file.length then [] else (file.drop off).take n) :
    (∃ r', r.ReadAt n off = .ok r' L) ∧ ∃ r₁ r₂, r.Seek off = .ok r₁ [] ∧ r₁.Read n = .ok r₂ L := by
  obtain ⟨⟨rs', h1⟩, rs₁, rs₂, h2, h3⟩ := string_law r.abs h.2.file_eq h.1 n off L hL
  have hA := step_refines h (.readAt n off)
  have hS := seek_refines h off
  rw [Reader.step, Reader.step, h1] at hA
  rw [h2] at hS
  obtain ⟨r', hr', _⟩ := hA.ok
  obtain ⟨r₁, hr₁, hi₁, rfl⟩ := hS.ok
  have hR := step_refines hi₁ (.read n)
  rw [Reader.step, Reader.step, h3] at hR
  obtain ⟨r₂, hr₂, _⟩ := hR.ok
  exact ⟨⟨r', hr'⟩, r₁, r₂, hr₁, hr₂⟩

end Vore.Files

import Vore.Lemmas.DocEval
/-!
# Vore.Lemmas.Soundness — accepted, single-typed code never reaches an undefined operation
-/
namespace Vore
open Vore.Tables Vore.Spec.Typing

/-! ## the checker's table is monotone under `Fits`

`Fits d s` is `d = s`, or a number where a string was assumed; so monotonicity is two facts about
the table, one for each operand. -/

/-- on the right: only `string - * / % number` looks at the right operand's type, and it comes
last in the chain -/
theorem binType_number_right {l : PT} {op : Op} {t : PT} (h : binType l .string op = some t) :
    binType l .number op = some t := by
  unfold binType at h ⊢
  grind

/-- on the left: an operator accepted on a string gives the same type on a number, except `+`, which
gives a string on a string and a number on a number -/
theorem binType_number_left {r : PT} {op : Op} {t : PT} (h : binType .string r op = some t) :
    ∃ t', binType .number r op = some t' ∧ Fits t' t := by
  by_cases hp : op = .plus
  · cases hp
    cases h
    exact ⟨.number, rfl, .inr ⟨rfl, rfl⟩⟩
  · refine ⟨t, ?_, .inl rfl⟩
    unfold binType at h ⊢
    grind

theorem binType_fits {dl dr tl tr : PT} {op : Op} {t : PT} (hl : Fits dl tl) (hr : Fits dr tr)
    (h : binType tl tr op = some t) : ∃ t', binType dl dr op = some t' ∧ Fits t' t := by
  have h' : binType tl dr op = some t := by
    rcases hr with rfl | ⟨rfl, rfl⟩
    · exact h
    · exact binType_number_right h
  rcases hl with rfl | ⟨rfl, rfl⟩
  · exact ⟨t, h', .inl rfl⟩
  · exact binType_number_left h'

/-- by monotonicity the documented outcome at the dynamic operand types is not `undefined` -/
theorem evalBin_sound {l r : PVal} {tl tr t : PT} {op : Op} (hl : Fits l.type tl) (hr : Fits r.type tr)
    (h : Spec.DocOps.binType tl tr op = some t) :
    (∃ v, evalBin op l r = .val v ∧ Fits v.type t) ∨ evalBin op l r = .panic divZeroTag := by
  obtain ⟨t', ht', ft⟩ := binType_fits hl hr (binType_documented .. ▸ h)
  obtain ⟨h1, h2⟩ := evalBin_cells_documented op l r t' (binType_documented .. ▸ ht')
  rcases toEvalRes_eq_some h1 with ⟨v, hd, hv⟩ | ⟨_, hv⟩
  · exact .inl ⟨v, hv, h2 v hd ▸ ft⟩
  · exact .inr hv

theorem PEnv.get_replace (ρ : PEnv) (x y : String) (v : PVal) :
    PEnv.get (ρ.map fun kv => if kv.1 == x then (x, v) else kv) y
      = if y = x ∧ ρ.any (·.1 == x) then some v else ρ.get y := by
  unfold PEnv.get
  induction ρ with
  | nil => simp
  | cons kv ρ ih =>
    simp only [List.map_cons, List.find?_cons, List.any_cons]
    grind

theorem PEnv.get_put (ρ : PEnv) (x : String) (v : PVal) (y : String) :
    (ρ.put x v).get y = if y = x then some v else ρ.get y := by
  unfold PEnv.put
  split
  · rw [PEnv.get_replace]; grind
  · unfold PEnv.get; grind

theorem lookup_put (ρ : PEnv) (x : String) (v : PVal) (y : String) :
    lookup (ρ.put x v) y = if y = x then v else lookup ρ y := by
  unfold lookup
  rw [PEnv.get_put]
  by_cases h : y = x <;> simp [h]

theorem agrees_put {Γ : Env} {ρ : PEnv} (h : Agrees ρ Γ) (x : String) (v : PVal) (hv : Fits v.type (Γ x)) :
    Agrees (ρ.put x v) Γ := by
  intro y
  rw [lookup_put]
  split
  · next hy => exact hy ▸ hv
  · exact h y

/-- a variable reference yields a value stored in the environment, or the empty string: what
holds of all stored values and of `''` holds of every variable -/
theorem lookup_of_forall {P : PVal → Prop} {ρ : PEnv} (h0 : P (.str [])) (h : ∀ kv ∈ ρ, P kv.2) (x : String) :
    P (lookup ρ x) := by
  unfold lookup PEnv.get
  cases hf : ρ.find? (·.1 == x) with
  | none => exact h0
  | some kv => exact h kv (List.mem_of_find?_eq_some hf)

theorem PEnv.mem_put {ρ : PEnv} {x : String} {v : PVal} {kv : String × PVal} (h : kv ∈ ρ.put x v) :
    kv = (x, v) ∨ kv ∈ ρ := by
  unfold PEnv.put at h
  split at h
  · obtain ⟨kv', hm, rfl⟩ := List.mem_map.mp h
    split
    · exact .inl rfl
    · exact .inr hm
  · simpa [or_comm] using h

theorem evalExpr_sound {Γ : Env} {ρ : PEnv} (hρ : Agrees ρ Γ) {e : PExpr} {t : PT} (h : HasType Γ e t) :
    (∃ v, evalExpr ρ e = .val v ∧ Fits v.type t) ∨ evalExpr ρ e = .panic divZeroTag := by
  induction h with
  | var x => exact .inl ⟨_, evalExpr_var ρ x, hρ x⟩
  | un _ hu ih =>
    rcases ih with ⟨v, hv, _⟩ | hp
    · exact .inl ⟨evalUn _ v, by simp [evalExpr, hv], .inl (evalUn_type (unType_documented .. ▸ hu) v)⟩
    · exact .inr (by simp [evalExpr, hp])
  | bin _ _ hb ihl ihr =>
    rcases ihl with ⟨lv, hlv, fl⟩ | hp
    · rcases ihr with ⟨rv, hrv, fr⟩ | hp
      · simpa [evalExpr, hlv, hrv] using evalBin_sound fl fr hb
      · exact .inr (by simp [evalExpr, hlv, hp])
    · exact .inr (by simp [evalExpr, hp])
  | _ => exact .inl ⟨_, rfl, .inl rfl⟩

theorem hasType_det {Γ : Env} {e : PExpr} {t t' : PT} (h : HasType Γ e t) (h' : HasType Γ e t') : t = t' := by
  induction h generalizing t' with
  | un _ hu ih => cases h' with | un h1 hu' => cases ih h1; exact Option.some.inj (hu.symm.trans hu')
  | bin _ _ hb ihl ihr =>
    cases h' with | bin h1 h2 hb' => cases ihl h1; cases ihr h2; exact Option.some.inj (hb.symm.trans hb')
  | _ => cases h'; rfl

theorem Env.update_self (Γ : Env) (x : String) : Γ.update x (Γ x) = Γ := by
  funext y; unfold Env.update; split <;> simp [*]

/-- what the soundness theorem says about the outcome of running a statement -/
def GoodRes (Γ : Env) : ExecRes → Prop
  | .ok st => Agrees st.env Γ
  | .panic t => t = divZeroTag
  | .fuel => True

/-- the shape of every sequencing step of `execStmt` and `execTop`: go on from an `.ok` state, pass anything
else through -/
theorem GoodRes.andThen {Γ : Env} {r : ExecRes} (hr : GoodRes Γ r) {k : PState → ExecRes}
    (hk : ∀ st, Agrees st.env Γ → GoodRes Γ (k st)) :
    GoodRes Γ (match r with | .ok st => k st | r => r) := by
  cases r with
  | ok st => exact hk st hr
  | _ => exact hr

/-- the shape of every statement that starts by evaluating an expression: a panic is passed on, a value goes to `k` -/
theorem GoodRes.ofEval {Γ : Env} {ρ : PEnv} (hρ : Agrees ρ Γ) {e : PExpr} {t : PT} (he : HasType Γ e t)
    {k : PVal → ExecRes} (hk : ∀ v, Fits v.type t → GoodRes Γ (k v)) :
    GoodRes Γ (match evalExpr ρ e with | .val v => k v | .panic t => .panic t) := by
  rcases evalExpr_sound hρ he with ⟨v, hv, fv⟩ | hp
  · rw [hv]; exact hk v fv
  · rw [hp]; rfl

/-- induction on the typing derivation; `loop` by induction on the fuel -/
theorem execStmt_sound (ctx : Ctx) {b : Bool} {Γ Γ' : Env} {s : Stmt} (w : WT ctx b Γ s Γ') (hs : SingleTyped Γ s) :
    Γ' = Γ ∧ ∀ (f : Nat) (st : PState), Agrees st.env Γ → GoodRes Γ (execStmt f s st) := by
  induction w with
  | seq _ _ ih1 ih2 =>
    obtain ⟨rfl, g1⟩ := ih1 hs.1
    obtain ⟨rfl, g2⟩ := ih2 hs.2
    refine ⟨rfl, fun f st h => ?_⟩
    simp only [execStmt]
    refine (g1 f st h).andThen fun st' h' => ?_
    split
    · exact g2 f st' h'
    · exact h'
  | @set _ Γ x _ _ he =>
    -- `hs` says the assigned expression has the type `Γ x`: the assignment leaves the type of `x`, hence `Γ`, as it was
    cases hasType_det he hs
    refine ⟨Env.update_self Γ x, fun f st h => ?_⟩
    simp only [execStmt]
    exact .ofEval h he fun v fv => agrees_put h x v fv
  | ite hc _ _ ih1 ih2 =>
    obtain ⟨rfl, g1⟩ := ih1 hs.1
    obtain ⟨rfl, g2⟩ := ih2 hs.2
    refine ⟨rfl, fun f st h => ?_⟩
    simp only [execStmt]
    refine .ofEval h hc fun v _ => ?_
    split
    · exact g1 f _ h
    · exact g2 f _ h
  | ret he _ | debug he =>
    refine ⟨rfl, fun f st h => ?_⟩
    simp only [execStmt]
    exact .ofEval h he fun _ _ => h
  | loop _ ih =>
    obtain ⟨rfl, g⟩ := ih hs
    refine ⟨rfl, fun f => ?_⟩
    induction f with
    | zero => intro st _; simp [execStmt, GoodRes]
    | succ f ihf =>
      intro st h
      simp only [execStmt]
      refine (g f st h).andThen fun st' h' => ?_
      cases st'.status with
      | returning | breakLoop => exact h'
      | continueLoop | next => exact ihf _ h'
  | _ => exact ⟨rfl, fun f st h => by simpa [execStmt, GoodRes] using h⟩

theorem execTop_sound (ctx : Ctx) (f : Nat) {b : Bool} {Γ Γ' : Env} {s : Stmt} (w : WT ctx b Γ s Γ') (hs : SingleTyped Γ s)
    (st : PState) (h : Agrees st.env Γ) : GoodRes Γ (execTop f s st) := by
  induction s generalizing st with
  | seq _ _ _ ihc =>
    cases w with
    | seq w1 w2 =>
      obtain ⟨rfl, g1⟩ := execStmt_sound ctx w1 hs.1
      simp only [execTop]
      refine (g1 f st h).andThen fun st' h' => ?_
      split
      · exact h'
      · exact ihc w2 hs.2 st' h'
  | skip => simpa [execTop, GoodRes] using h
  | _ => simpa [execTop] using (execStmt_sound ctx w hs).2 f st h

theorem runProcess_error {f : Nat} {body : Stmt} {ρ : PEnv} {t : String} :
    runProcess f body ρ = .error t ↔ execTop f body { cur := .str [], env := ρ, status := .next } = .panic t := by
  unfold runProcess
  cases execTop f body { cur := .str [], env := ρ, status := .next } <;> simp

theorem singleTypedB_iff (Γ : TEnv) : ∀ s : Stmt, singleTypedB Γ s = true ↔ SingleTyped Γ.get s := by
  intro s
  induction s with
  | seq _ _ iha ihb => simp [singleTypedB, SingleTyped, iha, ihb]
  | ite _ _ _ iht ihf => simp [singleTypedB, SingleTyped, iht, ihf]
  | loop _ ih => simp [singleTypedB, SingleTyped, ih]
  | set _ _ => simp [singleTypedB, SingleTyped, typeOf_iff]
  | _ => simp [singleTypedB, SingleTyped]

end Vore

import Vore.Lemmas.ParserExpr
import Vore.Lemmas.ParserStmt
/-!
# Vore.Lemmas.ParserCmd — simulation of the command level (`find`, `replace`, `set`, the program loop)
-/
namespace Vore.Parser
open Vore Vore.Grammar

variable {rx : Bytes → RegexOutcome} {ts : List Token}

theorem atomList_sim (h : EndsEof ts) {lo : Nat} : ∀ (n cur : Nat), lo ≤ cur ∧ cur < ts.length → ts.length - cur ≤ n →
    Sim ts lo (atomList ts n cur) (pAtomList n (strip (ts.drop cur)))
  | 0, _, hb, hn => absurd (Nat.sub_pos_of_lt hb.2) (Nat.not_lt.mpr hn)
  | n + 1, cur, hb, hn => by
    refine sim_mono ?_ hb.1
    rw [atomList, pAtomList]
    apply sim_skip h ⟨Nat.le_refl _, hb.2⟩; intro w t p
    -- anchored behind the first atom from here on: the loop's measure needs that progress
    refine p.sim ?_
    apply sim_bind (parseAtom_sim h p.tk p.sig); intro a nx _ hb1
    apply sim_skipTok h hb1; intro c t1 p1 hst1
    refine sim_ite (fun _ => sim_ok hst1 p1.bnd) fun _ => ?_
    rw [hst1]
    exact sim_map (atomList_sim h n c p1.bnd (fuel_loop (a := 0) hn hb.2 (Nat.lt_of_le_of_lt p.le p1.le)))

/-- the statements of a `transform` / `pattern … begin` body and the `end` that must follow them (no skip:
`parse_process_statements` has stopped at a significant token) -/
theorem body_sim (h : EndsEof ts) {F lo c : Nat} (hb : lo ≤ c ∧ c < ts.length) (hF : 8 * ts.length + 7 ≤ F)
    {β : Type} (mk : Stmt → β) :
    Sim ts lo
      ((parseStatements ts F c).bind fun stmts nx =>
        withTok ts nx fun t2 => if t2.kind = .end_ then .ok (mk stmts) (nx + 1) else .error expEnd nx)
      ((pStatements F (strip (ts.drop c))).bind fun stmts r =>
        next r fun t2 r' => if t2.kind = .end_ then .ok (mk stmts) r' else .err) := by
  apply simSt_bind hb.1 ((stmt_sim h F).stmts c hb.2 (fuel_top (fuel_half hF)))
  · intro stmts nx t2 p2
    apply sim_tok p2.tk p2.sig
    exact sim_ite (fun hk2 => sim_ok rfl (p2.succ h (by simp [hk2]))) fun _ => sim_err
  · intro v k t' htk' hk'
    simp [withTok, htk', hk', IsErr]

section cmds
variable (hrx : ∀ b, rx b ≠ .panic) (h : EndsEof ts) {F : Nat} (hF : 8 * ts.length + 7 ≤ F)
include hrx h hF

theorem parseFind_sim {i : Nat} {t : Token} (htk : tk ts i = some t) (hs : ignorable t.kind = false)
    (hk : t.kind ≠ .eof) :
    Sim ts (i + 1) (parseFind rx ts F i) (pFind rx F (strip (ts.drop i))) := by
  rw [parseFind, pFind, next_head htk hs]
  apply sim_bind (parseAmount_sim h (h.after htk hk)); intro amt n _ hb
  exact sim_map (sim_mono ((expr_sim hrx h F).list stopFind n hb.2 (fuel_top hF)) hb.1)

theorem parseReplace_sim {i : Nat} {t : Token} (htk : tk ts i = some t) (hs : ignorable t.kind = false)
    (hk : t.kind ≠ .eof) :
    Sim ts (i + 1) (parseReplace rx ts F i) (pReplace rx F (strip (ts.drop i))) := by
  rw [parseReplace, pReplace, next_head htk hs]
  apply sim_bind (parseAmount_sim h (h.after htk hk)); intro amt n _ hb
  apply simList_bind (sim_mono ((expr_sim hrx h F).list stopReplaceBody n hb.2 (fuel_top hF)) hb.1); intro body c t1 p1
  apply sim_tok p1.tk p1.sig
  refine sim_ite (fun hk1 => ?_) fun _ => sim_err
  exact sim_map (atomList_sim h F (c + 1) (p1.succ h (by simp [hk1])) (fuel_len (fuel_top hF) (by decide)))

omit hrx in
theorem parseSetTransform_sim {i : Nat} {t : Token} (htk : tk ts i = some t) (hs : ignorable t.kind = false)
    (hk : t.kind ≠ .eof) :
    Sim ts (i + 1) (parseSetTransform ts F i) (pSetTransform F (strip (ts.drop i))) := by
  rw [parseSetTransform, pSetTransform, next_head htk hs]
  apply sim_skipTok h (h.after htk hk); intro c t1 p1 hst1
  obtain ⟨hr, hb⟩ := p1.opt h hst1 .begin_ (by decide)
  rw [hr]
  exact body_sim h hb hF id

theorem parseSetPattern_sim {i : Nat} {t : Token} (htk : tk ts i = some t) (hs : ignorable t.kind = false)
    (hk : t.kind ≠ .eof) :
    Sim ts (i + 1) (parseSetPattern rx ts F i) (pSetPattern rx F (strip (ts.drop i))) := by
  rw [parseSetPattern, pSetPattern, next_head htk hs]
  apply sim_bind ((expr_sim hrx h F).list stopPattern (i + 1) (h.succ_lt htk hk) (fuel_top hF)); intro body c _ hb1
  apply sim_skipTok h hb1; intro c1 t1 p1 hst1
  refine sim_ite (fun hk1 => ?_) fun _ => sim_ok hst1 p1.bnd
  exact body_sim h (p1.succ h (by simp [hk1])) hF _

end cmds

/-- relation for `parse_command`: `none` (Go's nil command) only at EOF, without advancing -/
def SimC (ts : List Token) (i : Nat) : Res (Option Cmd) → GR (Option Cmd) → Prop
  | .ok (some s) k, .ok (some s') r => s = s' ∧ r = strip (ts.drop k) ∧ i < k ∧ k < ts.length
  | .ok none k, .ok none r => k = i ∧ r = strip (ts.drop i) ∧ ∃ t, tk ts i = some t ∧ t.kind = .eof
  | .error _ _, .err => True
  | _, _ => False

theorem SimC.inv {i : Nat} {r : Res (Option Cmd)} {g : GR (Option Cmd)} (h : SimC ts i r g) :
    (∃ c k, r = .ok (some c) k ∧ g = .ok (some c) (strip (ts.drop k)) ∧ i < k ∧ k < ts.length) ∨
    (r = .ok none i ∧ g = .ok none (strip (ts.drop i)) ∧ ∃ t, tk ts i = some t ∧ t.kind = .eof) ∨
    (∃ m a, r = .error m a ∧ g = .err) :=
  match r, g, h with
  | .ok (some c) k, .ok (some _) _, ⟨rfl, rfl, h1, h2⟩ => .inl ⟨c, k, rfl, rfl, h1, h2⟩
  | .ok none _, .ok none _, ⟨rfl, rfl, h1⟩ => .inr (.inl ⟨rfl, rfl, h1⟩)
  | .error m a, .err, _ => .inr (.inr ⟨m, a, rfl, rfl⟩)

theorem simC_some {i : Nat} {r : Res Cmd} {g : GR Cmd} (h : Sim ts (i + 1) r g) :
    SimC ts i (r.bind fun s k => .ok (some s) k) (g.bind fun s k => .ok (some s) k) := by
  rcases h.inv with ⟨v, k, rfl, rfl, h1, h2⟩ | ⟨m, a, rfl, rfl⟩
  · exact ⟨rfl, rfl, h1, h2⟩
  · trivial

structure CmdIH (rx : Bytes → RegexOutcome) (ts : List Token) (F f : Nat) : Prop where
  cmd : ∀ i t, tk ts i = some t → ignorable t.kind = false → 4 * (ts.length - i) + 3 ≤ f →
    SimC ts i (parseCommand rx ts F f i) (pCommand rx F f (strip (ts.drop i)))
  set : ∀ i t, tk ts i = some t → ignorable t.kind = false → t.kind = .set → 4 * (ts.length - i) + 2 ≤ f →
    Sim ts (i + 1) (parseSet rx ts F f i) (pSet rx F f (strip (ts.drop i)))
  mat : ∀ i t, tk ts i = some t → ignorable t.kind = false → t.kind = .matches → 4 * (ts.length - i) + 1 ≤ f →
    Sim ts (i + 1) (parseSetMatches rx ts F f i) (pSetMatches rx F f (strip (ts.drop i)))

theorem cmd_sim (hrx : ∀ b, rx b ≠ .panic) (h : EndsEof ts) {F : Nat} (hF : 8 * ts.length + 7 ≤ F) :
    ∀ f, CmdIH rx ts F f
  | 0 => by constructor <;> intros <;> exact absurd ‹_ ≤ 0› (Nat.not_succ_le_zero _)
  | f + 1 => by
    have ih := cmd_sim hrx h hF f
    exact {
      cmd := fun i t htk hs hf => by
        rw [parseCommand, pCommand, next_head htk hs]
        simp only [withTok, htk, sig_kind]
        refine ite_rel (fun hk => simC_some (parseFind_sim hrx h hF htk hs (by simp [hk]))) fun _ => ?_
        refine ite_rel (fun hk => simC_some (parseReplace_sim hrx h hF htk hs (by simp [hk]))) fun _ => ?_
        refine ite_rel (fun hk => simC_some (ih.set i t htk hs hk (fuel_rank hf (by decide)))) fun _ => ?_
        exact ite_rel (fun hk => ⟨rfl, rfl, t, htk, hk⟩) fun _ => trivial
      set := fun i t htk hs hk hf => by
        rw [parseSet, pSet, next_head htk hs]
        apply sim_expect (· = .identifier) (by decide) h (h.after htk (by simp [hk])); intro c t1 hk1 hb1
        rw [sig_lex hk1 rfl]
        apply sim_expect (· = .to) (by decide) h hb1; intro c2 t2 _ hb2
        apply sim_skipTok h hb2; intro c3 t3 p3 hst3
        rw [hst3]
        refine sim_ite (c := t3.kind = .pattern)
          (fun hk3 => sim_map (p3.sim (parseSetPattern_sim hrx h hF p3.tk p3.sig (by simp [hk3])))) fun _ => ?_
        refine sim_ite (c := t3.kind = .matches)
          (fun hk3 => sim_map (p3.sim (ih.mat c3 t3 p3.tk p3.sig hk3 (fuel_later hf p3.bnd (by decide))))) fun _ => ?_
        exact sim_ite (c := t3.kind = .transform)
          (fun hk3 => sim_map (p3.sim (parseSetTransform_sim h hF p3.tk p3.sig (by simp [hk3])))) fun _ => sim_err
      mat := fun i t htk hs hk hf => by
        rw [parseSetMatches, pSetMatches, next_head htk hs]
        apply sim_skip h (h.after htk (by simp [hk])); intro c t1 p1
        rcases (ih.cmd c t1 p1.tk p1.sig (fuel_later hf p1.bnd (by decide))).inv with
          ⟨cmd, k, hr, hg, h2, h3⟩ | ⟨hr, hg, _⟩ | ⟨m, a, hr, hg⟩ <;> rw [hr, hg]
        · exact sim_ok rfl ⟨Nat.le_trans p1.le (Nat.le_of_lt h2), h3⟩
        · exact sim_err
        · exact sim_err }

theorem parseCmds_sim (hrx : ∀ b, rx b ≠ .panic) (h : EndsEof ts) {F : Nat} (hF : 8 * ts.length + 7 ≤ F) :
    ∀ (n i : Nat), i < ts.length → (ts.length - i) + 1 ≤ n →
      Sim ts i (parseCmds rx ts F n i) (pCmds rx F n (strip (ts.drop i)))
  | 0, _, _, hn => absurd hn (Nat.not_succ_le_zero _)
  | n + 1, i, hi, hn => by
    rw [parseCmds, pCmds]
    split
    next hlt =>
      apply sim_skipTok h ⟨Nat.le_refl _, hi⟩; intro w t p hst
      have htk := p.tk
      rw [hst]
      rcases ((cmd_sim hrx h hF F).cmd w t htk p.sig (fuel_top (fuel_half hF))).inv with
        ⟨c, k, hr, hg, h1, h2⟩ | ⟨hr, _, t', ht', hk'⟩ | ⟨m, a, hr, hg⟩
      · -- a command: the model has not read EOF, so the grammar does not stop here either
        have hik : i < k := Nat.lt_of_le_of_lt p.le h1
        have hk : t.kind ≠ .eof := fun hk => Nat.ne_of_lt (Nat.lt_of_le_of_lt h1 h2) ((h.eof_iff htk).mp hk)
        rw [hr, hg, sig_kind, if_neg hk]
        exact sim_map (sim_mono (parseCmds_sim hrx h hF n k h2 (fuel_loop hn hi hik)) (Nat.le_of_lt hik))
      · -- EOF after blanks: the model gets Go's nil command and leaves the loop at the next test
        rw [htk] at ht'; cases ht'
        have hlast := (h.eof_iff htk).mp hk'
        have hiw : i < w := Nat.lt_of_add_lt_add_right (hlast ▸ hlt)
        obtain ⟨n', rfl⟩ := fuel_pos (fuel_loop hn hi hiw)
        rw [hr, sig_kind, if_pos hk', Res.bind, parseCmds, if_neg (Nat.ne_of_lt · hlast), Res.bind]
        exact sim_ok rfl p.bnd
      · -- an error: not at EOF, where `parse_command` returns nil and no error; so the grammar tries a command too
        have hk : t.kind ≠ .eof := fun hk => by
          obtain ⟨F', rfl⟩ := fuel_pos hF
          rw [parseCommand] at hr; simp [withTok, htk, hk] at hr
        rw [hr, hg, sig_kind, if_neg hk]
        exact sim_err
    next hge =>
      obtain ⟨t, htk, hk⟩ := h.last_eof (Nat.le_antisymm hi (Nat.le_of_not_lt hge))
      rw [next_head htk (eof_sig hk), sig_kind, if_pos hk]
      exact sim_ok rfl ⟨Nat.le_refl _, hi⟩

theorem fuelOf_cmd : 8 * ts.length + 7 ≤ fuelOf ts := Nat.add_le_add_left (by decide) _

/-- the whole parser against the grammar, with the model's own fuel on both sides -/
theorem parse_sim (hrx : ∀ b, rx b ≠ .panic) (h : EndsEof ts) :
    Sim ts 0 (parse rx ts) (pCmds rx (fuelOf ts) (fuelOf ts) (strip ts)) :=
  parseCmds_sim hrx h fuelOf_cmd (fuelOf ts) 0 h.pos (by unfold fuelOf; omega)

end Vore.Parser

import Vore.Lemmas.SimR
import Vore.Lemmas.Unroll
import Vore.Lemmas.Window
/-!
# Vore.Lemmas.SimTop — from one attempt to the whole scan: `findMatches` on generated code returns the window of
the specification's matches (`findMatches_specR`, `findMatches_genBody`; call-free fragment: `findMatches_spec`).
First `run_mono`: more fuel never changes an answer of `run`, which is what lets the attempts of one scan share a fuel.
-/
namespace Vore
open Vore.Spec

theorem run_mono (pf : Nat) (prog : List Instr) (text : Bytes) :
    ∀ n k s o, run pf prog text n s = some o → run pf prog text (n + k) s = some o := by
  intro n
  induction n with
  | zero => intro k s o h; simp [run] at h
  | succ n ih =>
    intro k s o h
    rw [Nat.add_right_comm]
    rw [run] at h ⊢
    by_cases hge : s.core.pc ≥ prog.length
    · simp only [hge, if_true] at h ⊢; exact h
    · simp only [hge, if_false] at h ⊢
      cases hs : step pf prog text s with
      | done o' => rw [hs] at h; exact h
      | cont s' => rw [hs] at h; exact ih k s' o h

theorem makeMatch_data (n pos line col : Nat) (c : Core) :
    makeMatch n pos line col c = matchOfData n pos line col c.data := rfl

/-- an attempt that answers, as the scan loop sees it with enough fuel: a success with the specification's data, classified
by whether it consumed; or a failure -/
theorem ev_classify {pf : Nat} {prog : List Instr} {text : Bytes} {s : VMState} {r : SRes} (h : Ev pf prog text s r) :
    ∃ n, ∀ vf, n ≤ vf → match r with
      | .matched d => ∃ c, c.data = d ∧ classify (run pf prog text vf s) = if d.cur.length != 0 then .hit c else .miss
      | .fail => classify (run pf prog text vf s) = .miss := by
  obtain ⟨n, o, hn, ho⟩ := h
  refine ⟨n, fun vf hle => ?_⟩
  have hrun := run_mono pf prog text n (vf - n) s o hn
  rw [Nat.add_sub_cancel' hle] at hrun
  rw [hrun]
  cases o with
  | success c => cases ho; exact ⟨c, rfl, rfl⟩
  | fail => cases ho; rfl
  | panic t => cases ho
  | pfuel => cases ho

theorem scan_sim_with {pf : Nat} {text : Bytes} {prog : List Instr} {att : Nat → Nat → Nat → Option SRes}
    (hatt : ∀ pos line col r, att pos line col = some r → Ev pf prog text (initState pos line col) r) :
    ∀ {f acc pos line col A}, pos < text.length → scanAllWith text att f acc pos line col = some A →
      ∃ vf0, ∀ vf, vf0 ≤ vf →
        scan pf vf prog amtAll text f acc acc.length pos line col = some (.ok A) := by
  intro f
  induction f with
  | zero => intro acc pos line col A _ h; simp [scanAllWith] at h
  | succ f ih =>
    intro acc pos line col A hposlt h
    unfold scanAllWith at h
    cases hr : att pos line col with
    | none => simp [hr] at h
    | some r =>
      rw [hr] at h
      obtain ⟨n, hcls⟩ := ev_classify (hatt pos line col r hr)
      -- a miss (failure or empty match): both scans advance one byte
      have hmiss : scanAllWith.step1 text att f acc pos line col = some A →
          (∀ vf, n ≤ vf → classify (run pf prog text vf (initState pos line col)) = .miss) →
          ∃ vf0, ∀ vf, vf0 ≤ vf → scan pf vf prog amtAll text (f + 1) acc acc.length pos line col = some (.ok A) := by
        intro hs hc
        obtain ⟨b, hb⟩ : ∃ b, readAt text pos 1 = [b] := ⟨text[pos], by rw [readAt_one, List.getElem?_eq_getElem hposlt]; rfl⟩
        unfold scanAllWith.step1 at hs
        simp only [hb] at hs
        have hgo : ∀ vf, n ≤ vf → scan pf vf prog amtAll text (f + 1) acc acc.length pos line col =
            if pos + 1 ≥ text.length then some (.ok acc)
            else scan pf vf prog amtAll text f acc acc.length (pos + 1) (if b = nl then (line + 1, 1) else (line, col + 1)).1
              (if b = nl then (line + 1, 1) else (line, col + 1)).2 := by
          intro vf hle
          rw [scan]
          simp only [amtAll, Bool.true_or, Bool.not_true, Bool.false_eq_true, if_false, hc vf hle, hb]
        by_cases hend : pos + 1 ≥ text.length
        · simp only [hend, if_true, Option.some.injEq] at hs
          exact ⟨n, fun vf hle => by rw [hgo vf hle, if_pos hend, hs]⟩
        · simp only [hend, if_false] at hs
          -- the specification branches on the newline where the VM computes the pair (line', col')
          have hs' : scanAllWith text att f acc (pos + 1) (if b = nl then (line + 1, 1) else (line, col + 1)).1
              (if b = nl then (line + 1, 1) else (line, col + 1)).2 = some A :=
            (apply_ite (fun lc : Nat × Nat => scanAllWith text att f acc (pos + 1) lc.1 lc.2) _ _ _).trans hs
          obtain ⟨vf0, hv⟩ := ih (by omega) hs'
          exact ⟨max n vf0, fun vf hle => by
            rw [hgo vf (Nat.max_le.mp hle).1, if_neg hend]
            exact hv vf (Nat.max_le.mp hle).2⟩
      cases r with
      | fail => exact hmiss h hcls
      | matched d =>
        simp only at h
        by_cases hne : (d.cur.length != 0) = true
        · -- a non-empty match: reported, and both scans go on behind it
          simp only [hne, if_true] at h hcls
          have hgo : ∀ vf, n ≤ vf → scan pf vf prog amtAll text (f + 1) acc acc.length pos line col =
              if d.pos ≥ text.length then some (.ok (acc ++ [matchOfData (acc.length + 1) pos line col d]))
              else scan pf vf prog amtAll text f (acc ++ [matchOfData (acc.length + 1) pos line col d]) (acc.length + 1)
                d.pos d.line d.col := by
            intro vf hle
            obtain ⟨c, rfl, hc⟩ := hcls vf hle
            rw [scan]
            simp only [amtAll, Bool.true_or, Bool.not_true, Bool.false_eq_true, if_false, hc, Nat.zero_le, ge_iff_le,
              if_true, limitLast_zero, makeMatch_data]
            rfl
          by_cases hend : d.pos ≥ text.length
          · simp only [hend, if_true, Option.some.injEq] at h
            exact ⟨n, fun vf hle => by rw [hgo vf hle, if_pos hend, h]⟩
          · simp only [hend, if_false] at h
            obtain ⟨vf0, hv⟩ := ih (by omega) h
            exact ⟨max n vf0, fun vf hle => by
              rw [hgo vf (Nat.max_le.mp hle).1, if_neg hend]
              simpa using hv vf (Nat.max_le.mp hle).2⟩
        · simp only [hne, Bool.false_eq_true, if_false] at h hcls
          exact hmiss h (fun vf hle => (hcls vf hle).elim fun _ hc => hc.2)

theorem findMatches_specR {pf : Nat} {text : Bytes} {cf : Nat} {e : RExpr} {pcOf : Nat → Nat} (nid : Nat)
    (hc : Consistent pcOf e 0) (hwf : WfR e) (hne : lenR e ≠ 0) {A : List Match}
    (h : findAllR text pf cf e = some A) :
    ∃ vf0, ∀ vf, vf0 ≤ vf → ∀ amt, findMatches pf vf (genR pcOf e 0 nid).1 amt text = some (.ok (window amt A)) := by
  unfold findAllR at h
  split at h
  · next h0 =>
    simp only [Option.some.injEq] at h; subst h
    exact ⟨0, fun vf _ amt => by rw [findMatches_eq, if_pos (.inl h0), window_nil]⟩
  · next h0 =>
    obtain ⟨vf0, hv⟩ := scan_sim_with (prog := (genR pcOf e 0 nid).1)
      (fun pos line col r hr => attemptR_sim nid hc hwf hr) (by omega) h
    refine ⟨vf0, fun vf hle amt => ?_⟩
    apply findMatches_window
    have hl : (genR pcOf e 0 nid).1.length ≠ 0 := by rw [genR_length]; exact hne
    rw [findMatches_eq, if_neg (not_or.mpr ⟨h0, hl⟩)]
    exact hv vf hle

/-- what the specification answers has the shape the property describes (`Spec.faithful`): it is what the VM returns -/
theorem findAllR_faithful {pf : Nat} {text : Bytes} {cf : Nat} {e : RExpr} {pcOf : Nat → Nat}
    (hc : Consistent pcOf e 0) (hwf : WfR e) (hne : lenR e ≠ 0) {A : List Match}
    (h : findAllR text pf cf e = some A) : faithful text A = true := by
  obtain ⟨vf0, hv⟩ := findMatches_specR 0 hc hwf hne h
  exact window_amtAll A ▸ findMatches_faithful pf vf0 _ amtAll text _ (hv vf0 (Nat.le_refl _) amtAll)

/-- C01 stage 2, core statement (`C01_refines_calls` stands on it): for a resolved command body with pairwise distinct
subroutine ids, non-empty `in` lists and non-empty code, whenever the specification answers within call depth `cf`,
the VM running the two-pass generator's code returns the window of the specification's matches under every amount tuple. -/
theorem findMatches_genBody (pf : Nat) (text : Bytes) (cf : Nat) (e : RExpr) (nid : Nat)
    (hu : UniqueSubs e) (hwf : WfR e) (hne : lenR e ≠ 0) (A : List Match)
    (h : findAllR text pf cf e = some A) :
    ∃ vf0, ∀ vf, vf0 ≤ vf → ∀ amt, findMatches pf vf (genBody e nid).1 amt text = some (.ok (window amt A)) :=
  findMatches_specR nid (consistent_genBody e hu) hwf hne h

/-! ### the call-free fragment: `genCF e` is `genR (unroll e)`, `Spec.m e` is `mrWith (unroll e)` -/

theorem attempt_sim (pf : Nat) (text : Bytes) (lf : Nat) (e : Expr) (hcf : CallFree e) (nid : Nat) (pos line col : Nat)
    (r : SRes) (h : attempt text lf e pos line col = some r) :
    Ev pf (genCF e 0 nid).1 text (initState pos line col) r := by
  rw [← attemptR_unroll text lf pf 0 e hcf] at h
  rw [← genR_unroll id e]
  exact attemptR_sim nid (unroll_consistent id e 0) (unroll_wf e hcf) h

theorem findMatches_spec (pf : Nat) (text : Bytes) (e : Expr) (hcf : CallFree e) (nid : Nat) (hne : codeLen e ≠ 0)
    (A : List Match) (h : findAll text e = some A) :
    ∃ vf0, ∀ vf, vf0 ≤ vf → ∀ amt, findMatches pf vf (genCF e 0 nid).1 amt text = some (.ok (window amt A)) := by
  rw [← findAllR_unroll text pf 0 e hcf] at h
  rw [← genR_unroll id e]
  exact findMatches_specR nid (unroll_consistent id e 0) (unroll_wf e hcf) (by rw [lenR_unroll]; exact hne) h

end Vore

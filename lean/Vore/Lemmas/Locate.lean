import Vore.Spec.Locate
/-!
# Vore.Lemmas.Locate — `readAt` by cases, `advance` computes `lineOf`/`colOf` (C03), substring facts

`readAt` returns all `n ≥ 1` bytes or nothing; `advance` over what it returns leads from the line/column of one offset to
those of the offset after it; the substring predicates of `Spec.Locate` are kept by appending text and by map updates.
-/
namespace Vore
open Vore.Spec

theorem advance_spec (v : Bytes) : ∀ pre : Bytes,
    advance (1 + pre.count nl) ((pre.reverse.takeWhile (· != nl)).length + 1) v =
      (1 + (pre ++ v).count nl, ((pre ++ v).reverse.takeWhile (· != nl)).length + 1) := by
  induction v with
  | nil => intro pre; simp [advance]
  | cons b bs ih =>
    intro pre
    rw [List.append_cons, ← ih (pre ++ [b])]
    simp only [advance]
    by_cases hb : b = nl
    · subst hb
      simp [List.count_append]
      congr 1
    · simp [hb, List.count_append]

theorem readAt_of_le {text : Bytes} {off n : Nat} (hn : n ≠ 0) (h : off + n ≤ text.length) :
    readAt text off n = (text.drop off).take n :=
  if_neg (by omega)

theorem readAt_of_gt {text : Bytes} {off n : Nat} (h : text.length < off + n) : readAt text off n = [] :=
  if_pos (.inr h)

theorem readAt_cases (text : Bytes) (off n : Nat) :
    readAt text off n = (text.drop off).take n ∧ (off + n ≤ text.length) ∨ readAt text off n = [] := by
  by_cases h : n = 0 ∨ off + n > text.length
  · exact .inr (if_pos h)
  · exact .inl ⟨if_neg h, by omega⟩

theorem readAt_one (text : Bytes) (p : Nat) : readAt text p 1 = text[p]?.toList := by
  cases h : text[p]? with
  | none => exact readAt_of_gt (by have := List.getElem?_eq_none_iff.mp h; omega)
  | some b =>
    obtain ⟨hlt, hb⟩ := List.getElem?_eq_some_iff.mp h
    rw [readAt_of_le (by omega) (by omega), List.drop_eq_getElem_cons hlt, hb]
    rfl

theorem readAt_length_le (text : Bytes) (off n : Nat) : (readAt text off n).length ≤ n := by
  rcases readAt_cases text off n with ⟨h, _⟩ | h <;> rw [h]
  · exact List.length_take_le _ _
  · exact Nat.zero_le _

theorem readAt_length {text : Bytes} {off n : Nat} (hle : off + n ≤ text.length) : (readAt text off n).length = n := by
  by_cases hn : n = 0
  · rw [hn]; rfl
  · rw [readAt_of_le hn hle, List.length_take, List.length_drop]
    exact Nat.min_eq_left (Nat.le_sub_of_add_le' hle)

theorem readAt_spec (text : Bytes) (off n : Nat) :
    text.take (off + (readAt text off n).length) = text.take off ++ readAt text off n ∧
    (off ≤ text.length → off + (readAt text off n).length ≤ text.length) := by
  rcases readAt_cases text off n with ⟨h, hle⟩ | h
  · rw [readAt_length hle, h, List.take_add]
    exact ⟨rfl, fun _ => hle⟩
  · rw [h]; simp

/-- `CONSUME`'s bookkeeping: from the counters of `pos`, the bytes read there lead to the counters of where they end -/
theorem advance_readAt (text : Bytes) (pos n : Nat) :
    advance (lineOf text pos) (colOf text pos) (readAt text pos n) =
      (lineOf text (pos + (readAt text pos n).length), colOf text (pos + (readAt text pos n).length)) := by
  unfold lineOf colOf
  rw [advance_spec, ← (readAt_spec text pos n).1]

theorem infixB_iff (v w : Bytes) : infixB v w = true ↔ v <:+: w := by
  unfold infixB
  simp only [List.any_eq_true, List.mem_range, List.isPrefixOf_iff_prefix]
  constructor
  · rintro ⟨i, _, t, ht⟩
    exact ⟨w.take i, t, by rw [List.append_assoc, ht, List.take_append_drop]⟩
  · rintro ⟨s, t, h⟩
    refine ⟨s.length, ?_, t, ?_⟩
    · rw [← h]; simp; omega
    · rw [← h]; simp

theorem infixB_append {v w : Bytes} (x : Bytes) (h : infixB v w = true) : infixB v (w ++ x) = true :=
  (infixB_iff _ _).mpr (((infixB_iff _ _).mp h).trans (List.prefix_append w x).isInfix)

theorem infixB_drop (w : Bytes) (n : Nat) : infixB (w.drop n) w = true :=
  (infixB_iff _ _).mpr (List.drop_suffix n w).isInfix

theorem infixB_nil (w : Bytes) : infixB [] w = true :=
  (infixB_iff _ _).mpr List.nil_infix

mutual
theorem valSubB_append (w x : Bytes) : ∀ v : Val, valSubB w v = true → valSubB (w ++ x) v = true
  | .str s, h => by simp only [valSubB] at *; exact infixB_append x h
  | .map m, h => by simp only [valSubB] at *; exact mapSubB_append h
theorem mapSubB_append {w x : Bytes} : ∀ {m : VMap}, mapSubB w m = true → mapSubB (w ++ x) m = true
  | .nil, _ => by simp [mapSubB]
  | .cons _ v rest, h => by
    simp only [mapSubB, Bool.and_eq_true] at *
    exact ⟨valSubB_append w x v h.1, mapSubB_append h.2⟩
end

theorem VMap.get_put (f : VMap) (k x : String) (v : Val) :
    (f.put k v).get x = if k = x then some v else f.get x := by
  match f with
  | .nil => simp [VMap.put, VMap.get]
  | .cons k' w rest =>
    by_cases h : k' = k
    · subst h; by_cases h' : k' = x <;> simp [VMap.put, VMap.get, h']
    · by_cases h' : k' = x
      · subst h'; simp [VMap.put, VMap.get, h, Ne.symm h]
      · simp [VMap.put, VMap.get, h, h', VMap.get_put rest k x v]

theorem mapSubB_put {w : Bytes} {v : Val} : ∀ {m : VMap}, mapSubB w m = true → valSubB w v = true →
    ∀ x, mapSubB w (m.put x v) = true
  | .nil, _, hv, x => by simp [VMap.put, mapSubB, hv]
  | .cons k u rest, h, hv, x => by
    simp only [mapSubB, Bool.and_eq_true] at h
    unfold VMap.put
    split
    · simp [mapSubB, hv, h.2]
    · simp [mapSubB, h.1, mapSubB_put h.2 hv x]

theorem mapSubB_get {w : Bytes} {x : String} {v : Val} : ∀ {m : VMap}, mapSubB w m = true →
    m.get x = some v → valSubB w v = true
  | .nil, _, hg => by simp [VMap.get] at hg
  | .cons k u rest, h, hg => by
    simp only [mapSubB, Bool.and_eq_true] at h
    unfold VMap.get at hg
    split at hg
    · simp at hg; subst hg; exact h.1
    · exact mapSubB_get h.2 hg

end Vore

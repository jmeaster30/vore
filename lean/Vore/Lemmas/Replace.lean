import Vore.Spec.Locate
import Vore.Model.Engine
/-!
# Vore.Lemmas.Replace — replace commands keep the located fields of their matches

`replaceAll` only sets `replacement` (`replaceAll_spec`); so whatever ignores that field (`Spec.faithful`, the variable
maps) carries over from the search to every command (`runCmd_found`).
-/
namespace Vore
open Vore.Spec

def eraseRepl (m : Match) : Match := { m with replacement := none }

/-- pointwise relation between two lists of equal length -/
inductive ListRel {α β : Type} (R : α → β → Prop) : List α → List β → Prop where
  | nil : ListRel R [] []
  | cons {a b as bs} : R a b → ListRel R as bs → ListRel R (a :: as) (b :: bs)

theorem ListRel.imp {α β : Type} {R R' : α → β → Prop} (hR : ∀ a b, R a b → R' a b) {as : List α} {bs : List β}
    (h : ListRel R as bs) : ListRel R' as bs := by
  induction h with
  | nil => exact .nil
  | cons hab _ ih => exact .cons (hR _ _ hab) ih

theorem ListRel.map_eq {α β γ : Type} {R : α → β → Prop} {f : α → γ} {g : β → γ} (hR : ∀ a b, R a b → f a = g b)
    {as : List α} {bs : List β} (h : ListRel R as bs) : as.map f = bs.map g := by
  induction h with
  | nil => rfl
  | cons hab _ ih => rw [List.map_cons, List.map_cons, hR _ _ hab, ih]

/-- `executeReplace*` over a result list: each match gets what the replacer program returns for it -/
theorem replaceAll_spec {pf : Nat} {fn : Bytes} {rep : List RInstr} {total : Nat} :
    ∀ {ms out : List Match}, replaceAll pf fn rep total ms = .ok out →
      ListRel (fun m o => ∃ r, runReplacer pf (replacerVars m total fn) m rep none = .ok r ∧
        o = { m with replacement := r }) ms out := by
  intro ms
  induction ms with
  | nil => intro out h; cases h; exact .nil
  | cons m rest ih =>
    intro out h
    rw [replaceAll] at h
    split at h
    · next r hr =>
      split at h
      · next rest' hrest => cases h; exact .cons ⟨r, hr, rfl⟩ (ih hrest)
      · cases h
      · cases h
    · cases h
    · cases h

theorem replaceAll_fields {pf : Nat} {fn : Bytes} {rep : List RInstr} {total : Nat} {ms out : List Match}
    (h : replaceAll pf fn rep total ms = .ok out) : out.map eraseRepl = ms.map eraseRepl :=
  ((replaceAll_spec h).map_eq fun _ _ ⟨_, _, e⟩ => e ▸ rfl).symm

theorem replaceAll_length (pf : Nat) (fn : Bytes) (rep : List RInstr) (total : Nat)
    (ms out : List Match) (h : replaceAll pf fn rep total ms = .ok out) : out.length = ms.length := by
  have := congrArg List.length (replaceAll_fields h)
  simpa using this

theorem runCmd_found {pf vf : Nat} {fn text : Bytes} {c : BCmd} {ms : List Match}
    (h : runCmd pf vf fn text c = some (.ok ms)) :
    ms = [] ∨ ∃ amt code found, findMatches pf vf code amt text = some (.ok found) ∧
      ms.map eraseRepl = found.map eraseRepl := by
  unfold runCmd at h
  split at h
  · exact .inr ⟨_, _, ms, h, rfl⟩
  · split at h
    · next found hf => exact .inr ⟨_, _, found, hf, replaceAll_fields (Option.some.inj h)⟩
    all_goals cases h
  · cases h; exact .inl rfl

theorem chainOk_erase : ∀ l : List Match, chainOk (l.map eraseRepl) = chainOk l
  | [] => rfl
  | [_] => rfl
  | a :: b :: rest => by
    have ih := chainOk_erase (b :: rest)
    simp only [List.map_cons, chainOk] at ih ⊢
    rw [ih]; rfl

theorem faithful_erase (text : Bytes) (l : List Match) : faithful text (l.map eraseRepl) = faithful text l := by
  unfold faithful
  rw [chainOk_erase, List.all_map]
  rfl

theorem faithful_of_erase_eq (text : Bytes) {a b : List Match} (h : a.map eraseRepl = b.map eraseRepl) :
    faithful text a = faithful text b := by
  rw [← faithful_erase text a, ← faithful_erase text b, h]

end Vore

import Vore.Lemmas.Outs
/-!
# Vore.Lemmas.RegexLin — success continuations are "linear"

A success continuation built by the semantics either passes control on to its failure
continuation or answers without looking at it.  Consequence: offering the same data twice is the
same as offering it once (`LinF.dup`, `Lin.twice`) — which is why a bracket class with overlapping items
(`[aab]`, `[a-cb]`: `in 'a', 'a', 'b'` tries the items one after the other) finds what a set test finds.
A matcher offers its continuation a list of data one after the other (`Lemmas/Outs.lean`), so it hands
linearity on (`VisitsAt.lin`).
-/
namespace Vore.Rx
open Vore.Spec

/-- `A`, a computation still waiting for its failure continuation, passes control on to it or ignores it -/
def LinF (A : FK → Option SRes) : Prop := (∀ fk, A fk = fk ()) ∨ (∃ v, ∀ fk, A fk = v)

theorem LinF.pass : LinF (fun fk => fk ()) := Or.inl fun _ => rfl

theorem LinF.const (v : Option SRes) : LinF (fun _ => v) := Or.inr ⟨v, fun _ => rfl⟩

theorem LinF.comp {A B : FK → Option SRes} (hA : LinF A) (hB : LinF B) : LinF (fun fk => A (fun _ => B fk)) := by
  rcases hA with hp | ⟨v, hv⟩
  · have e : (fun fk => A (fun _ => B fk)) = B := funext fun fk => hp _
    rwa [e]
  · exact Or.inr ⟨v, fun fk => hv _⟩

theorem LinF.ite {c : Prop} [Decidable c] {A B : FK → Option SRes} (hA : c → LinF A) (hB : ¬ c → LinF B) :
    LinF (fun fk => if c then A fk else B fk) := by
  by_cases h : c <;> simp only [h, if_true, if_false]
  · exact hA h
  · exact hB h

theorem LinF.dup {A : FK → Option SRes} (h : LinF A) (fk : FK) : A (fun _ => A fk) = A fk := by
  rcases h with hp | ⟨v, hv⟩
  · exact hp _
  · rw [hv, hv]

/-- `ks` either falls through to its failure continuation or ignores it -/
def Lin (ks : SK) : Prop := ∀ d, (∀ fk, ks d fk = fk ()) ∨ (∃ v, ∀ fk, ks d fk = v)

theorem Lin.twice {ks : SK} (h : Lin ks) (d : Data) (fk : FK) : ks d (fun _ => ks d fk) = ks d fk :=
  LinF.dup (h d) fk

theorem lin_const (f : Data → Option SRes) : Lin (fun d _ => f d) := fun d => LinF.const (f d)

/-- linear on the data a match in progress can reach: within the text, at least `len` consumed -/
def LinOn (text : Bytes) (p0 len : Nat) (ks : SK) : Prop :=
  ∀ d, Good text p0 d → len ≤ d.cur.length → LinF (ks d)

theorem LinOn.mono {text : Bytes} {p0 len len' : Nat} {ks : SK} (h : LinOn text p0 len ks) (hle : len ≤ len') :
    LinOn text p0 len' ks :=
  fun d hg hl => h d hg (Nat.le_trans hle hl)

theorem _root_.Vore.VisitsAt.lin {text : Bytes} {p0 len : Nat} {r : SK → FK → Option SRes} {l : List Data}
    (h : VisitsAt text p0 len r l) {ks : SK} (hks : LinOn text p0 len ks) : LinF (r ks) := by
  obtain ⟨hall, heq⟩ := h
  rw [show r ks = firstK l ks from funext (heq ks)]
  clear heq
  induction l with
  | nil => exact LinF.pass
  | cons d rest ih =>
    have hd := List.forall_mem_cons.mp hall
    exact LinF.comp (hks d hd.1.1 hd.1.2) (ih hd.2)

end Vore.Rx

/-!
# Vore.Lemmas.Assoc — association lists written "put in front, drop the old bindings"

`Gen.insertKV`, `TEnv.put` and `FileSys.put` are the same function on three types; this is the one fact about it.
-/
namespace Vore
universe u w

theorem find?_cons_filter {κ : Type u} {β : Type w} [BEq κ] [LawfulBEq κ] (l : List (κ × β)) (k x : κ) (v : β) :
    ((k, v) :: l.filter (fun kv => !(kv.1 == k))).find? (·.1 == x) =
      if k == x then some (k, v) else l.find? (·.1 == x) := by
  rw [List.find?_cons]
  cases hk : k == x with
  | true => rfl
  | false =>
    simp only [List.find?_filter, Bool.false_eq_true, if_false]
    -- an entry with key `x` is not one with key `k`, so the filter does not hide it: the two tests agree
    congr 1
    funext kv
    by_cases h : kv.1 = x
    · subst h; simpa using fun h' : kv.1 = k => by simp [h'] at hk
    · simp [h]

end Vore

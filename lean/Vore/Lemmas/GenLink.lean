import Vore.Lemmas.GenCF
import Vore.Lemmas.Assoc
/-!
# Vore.Lemmas.GenLink — on the call-free fragment the monadic generator `gen` emits exactly `genCF`
-/
namespace Vore

def ScopeOK (st : GenState) : Prop :=
  st.globals = [] ∧ ∀ kv ∈ st.variables, kv.2 = none

theorem ScopeOK.lookup {st : GenState} (h : ScopeOK st) (x : String) (v : Option Nat)
    (hl : lookup st.variables x = some v) : v = none := by
  obtain ⟨kv, hf, rfl⟩ := Option.map_eq_some_iff.mp hl
  exact h.2 kv (List.mem_of_find?_eq_some hf)

theorem ScopeOK.forget {st : GenState} (h : ScopeOK st) (outer : List (String × Option Nat)) :
    ScopeOK (forgetCaptures outer st) :=
  ⟨h.1, fun kv hkv => h.2 kv ((List.mem_filter.mp hkv).1)⟩

theorem lookup_insertKV {α} (l : List (String × α)) (k x : String) (v : α) :
    lookup (insertKV l k v) x = if k == x then some v else lookup l x := by
  unfold lookup insertKV
  rw [find?_cons_filter]
  split <;> rfl

theorem ScopeOK.insert_capture {st : GenState} (h : ScopeOK st) (name : String) :
    ScopeOK { st with variables := insertKV st.variables name none } :=
  ⟨h.1, List.forall_mem_cons.mpr ⟨rfl, fun kv hkv => h.2 kv (List.mem_filter.mp hkv).1⟩⟩

theorem GenM.bind_ok {α β : Type} {x : GenM α} {f : α → GenM β} {b : β} (h : (x >>= f) = .ok b) :
    ∃ a, x = .ok a ∧ f a = .ok b := by
  cases x with
  | error e => cases h
  | ok a => exact ⟨a, rfl, h⟩

/-- `generateLoop` on an unnamed loop: the mandatory copies (`genRepeat … 0` emits nothing, so the test `mn > 0`
plays no role), then, unless `mn = mx`, the loop proper with minimum 0 -/
theorem gen_loop (mn : Nat) (mx : Int) (fewest : Bool) (body : Expr) (off : Nat) (st : GenState) :
    gen (.loop mn mx fewest "" body) off st = (do
      let (pre, st1) ← genRepeat (fun o s => gen body o (forgetCaptures st.variables s)) mn off st
      if (mn : Int) == mx then pure (pre, st1) else
      let (cb, st2) ← gen body (off + pre.length + 1) (forgetCaptures st.variables st1)
      pure (pre ++ [.startLoop st2.nextId 0 (loopMax mn mx) fewest (off + pre.length + cb.length + 1) ""] ++ cb ++
              [.stopLoop st2.nextId (off + pre.length)], { st2 with nextId := st2.nextId + 1 })) := by
  cases mn with
  | zero => simp [gen, genRepeat, loopMax, bind, Except.bind, pure, Except.pure]
  | succ n => simp [gen, loopMax]

theorem genRepeat_eq (g : Nat → GenState → GenM (List Instr × GenState)) (gc : Nat → Nat → List Instr × Nat)
    (hg : ∀ off st code st', ScopeOK st → g off st = .ok (code, st') →
      code = (gc off st.nextId).1 ∧ st'.nextId = (gc off st.nextId).2 ∧ ScopeOK st') :
    ∀ n off st code st', ScopeOK st → genRepeat g n off st = .ok (code, st') →
      code = (repCF gc n off st.nextId).1 ∧ st'.nextId = (repCF gc n off st.nextId).2 ∧ ScopeOK st'
  | 0, off, st, code, st', hs, h => by cases h; exact ⟨rfl, rfl, hs⟩
  | n + 1, off, st, code, st', hs, h => by
    obtain ⟨⟨c, st1⟩, h1, h⟩ := GenM.bind_ok h
    simp only at h
    obtain ⟨⟨cs, st2⟩, h2, h⟩ := GenM.bind_ok h
    cases h
    obtain ⟨rfl, hn, hs1⟩ := hg off st c st1 hs h1
    obtain ⟨rfl, hn2, hs2⟩ := genRepeat_eq g gc hg n _ st1 cs st2 hs1 h2
    simp only [repCF, ← hn, true_and]
    exact ⟨hn2, hs2⟩

theorem gen_eq_genCF (e : Expr) (hcf : CallFree e) : ∀ off st code st', ScopeOK st →
    gen e off st = .ok (code, st') →
    code = (genCF e off st.nextId).1 ∧ st'.nextId = (genCF e off st.nextId).2 ∧ ScopeOK st' := by
  induction e with
  | empty | atom a =>
    intro off st code st' hs h
    cases h
    exact ⟨rfl, rfl, hs⟩
  | inl neg items =>
    intro off st code st' hs h
    cases neg <;> cases h <;> exact ⟨rfl, rfl, hs⟩
  | seq a b iha ihb | branch a b iha ihb =>
    intro off st code st' hs h
    obtain ⟨⟨ca, st1⟩, h1, h⟩ := GenM.bind_ok h
    simp only at h
    obtain ⟨⟨cb, st2⟩, h2, h⟩ := GenM.bind_ok h
    cases h
    obtain ⟨rfl, hna, hsa⟩ := iha hcf.1 _ st ca st1 hs h1
    obtain ⟨rfl, hnb, hsb⟩ := ihb hcf.2 _ st1 cb st2 hsa h2
    simp only [genCF, ← hna, true_and]
    exact ⟨hnb, hsb⟩
  | var x =>
    intro off st code st' hs h
    simp only [gen] at h
    cases hl : lookup st.variables x with
    | some v =>
      cases hs.lookup x v hl
      simp only [hl] at h
      cases h
      exact ⟨rfl, rfl, hs⟩
    | none =>
      simp only [hl, hs.1] at h
      cases h
  | loop mn mx fewest name body ih =>
    intro off st code st' hs h
    obtain ⟨rfl, hcb⟩ := hcf
    -- each copy of the body, and the loop proper, is generated after `forgetCaptures`, which only filters the scope
    have ihf : ∀ o s c s', ScopeOK s → gen body o (forgetCaptures st.variables s) = .ok (c, s') →
        c = (genCF body o s.nextId).1 ∧ s'.nextId = (genCF body o s.nextId).2 ∧ ScopeOK s' :=
      fun o s c s' hs' h' => ih hcb o (forgetCaptures st.variables s) c s' (hs'.forget _) h'
    rw [gen_loop] at h
    obtain ⟨⟨pre, st1⟩, hp, h⟩ := GenM.bind_ok h
    simp only at h
    obtain ⟨rfl, hpn, hps⟩ := genRepeat_eq _ (genCF body) ihf mn off st pre st1 hs hp
    simp only [genCF]
    split at h
    · next heq =>
      cases h
      simp only [heq, if_true, true_and]
      exact ⟨hpn, hps⟩
    · next hne =>
      obtain ⟨⟨cb, st2⟩, hb2, h⟩ := GenM.bind_ok h
      cases h
      obtain ⟨rfl, hnb, hsb⟩ := ihf _ st1 cb st2 hps hb2
      simp only [hne, Bool.false_eq_true, if_false, ← hpn, ← hnb, true_and]
      exact hsb
  | dec x body ih =>
    intro off st code st' hs h
    obtain ⟨⟨cb, st1⟩, h1, h⟩ := GenM.bind_ok h
    obtain ⟨rfl, hnb, hsb⟩ := ih hcf _ st cb st1 hs h1
    simp only at h
    split at h
    · cases h
    · cases h
      exact ⟨rfl, hnb, hsb.insert_capture x⟩
  | sub x body _ => exact hcf.elim

end Vore

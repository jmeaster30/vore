import Vore.Lemmas.LexTokens
import Vore.Spec.LexItems
/-!
# Vore.Lemmas.LexItems — the lexer maps every lexical item to its token, in any context
-/
namespace Vore.Lex
open Vore Vore.ExtractedLex

theorem isLetterB_eq (c : UInt8) : isLetterB c = decide (isLetter c) := by
  rw [Bool.eq_iff_iff, decide_eq_true_iff]; simp [isLetterB, isLetter, or_assoc]
theorem isDigitB_eq (c : UInt8) : isDigitB c = decide (isDigit c) := by
  rw [Bool.eq_iff_iff, decide_eq_true_iff]; simp [isDigitB, isDigit]
theorem isSpaceB_eq (c : UInt8) : isSpaceB c = decide (isSpace c) := by
  rw [Bool.eq_iff_iff, decide_eq_true_iff]; simp [isSpaceB, isSpace, or_assoc]
theorem isAlnumB_eq (c : UInt8) : isAlnumB c = decide (isDigit c ∨ isLetter c) := by
  -- the same five tests in another order
  have : isAlnumB c = (isDigitB c || isLetterB c) := by simp only [isAlnumB, isDigitB, isLetterB]; ac_rfl
  rw [this, isDigitB_eq, isLetterB_eq, Bool.decide_or]

/-- the characters that `punctKind`, `op2Kind` (first character) and `op1Kind` list -/
def punctChars : List UInt8 := [40, 41, 123, 125, 44, 43, 42, 47, 37]
def op2Chars : List UInt8 := [61, 33, 58, 60, 62]
def op1Chars : List UInt8 := [61, 60, 62, 45]

theorem punctKind_isSome {c : UInt8} (h : (punctKind c).isSome) : c ∈ punctChars := by
  refine Decidable.byContradiction fun hne => ?_
  simp only [punctChars, List.mem_cons, List.not_mem_nil, or_false, not_or] at hne
  simp [punctKind, hne] at h

theorem op2Kind_isSome {a : UInt8} (h : (op2Kind a).isSome) : a ∈ op2Chars := by
  refine Decidable.byContradiction fun hne => ?_
  simp only [op2Chars, List.mem_cons, List.not_mem_nil, or_false, not_or] at hne
  simp [op2Kind, hne] at h

theorem op1Kind_isSome {c : UInt8} (h : (op1Kind c).isSome) : c ∈ op1Chars := by
  refine Decidable.byContradiction fun hne => ?_
  simp only [op1Chars, List.mem_cons, List.not_mem_nil, or_false, not_or] at hne
  simp [op1Kind, hne] at h

/-- (over the regenerated tables) what the lexer does on each character `punctKind` and `op2Kind` list: the states it passes
through and the `case` of the final switch, which gives the documented kind.  For `op1Kind` (tokens that end by look-ahead,
`tok_op1`) only that the kind is none of EOF, WS, COMMENT. -/
theorem punct_rows : ∀ c ∈ punctChars, c ≠ 0 ∧ (punctKind c).getD .error ∉ [.eof, .ws, .comment] ∧
    ∃ s ∈ [St.openparen, .closeparen, .opencurly, .closecurly, .comma, .operator],
      step .start c = .brk s true ∧ finalAct s [c] = .tok ((punctKind c).getD .error) := by decide +kernel

theorem op2_rows : ∀ a ∈ op2Chars, a ≠ 0 ∧ (op2Kind a).getD .error ∉ [.eof, .ws, .comment] ∧
    ∃ s ∈ [St.equal1, .excl, .colon, .operatorStart], step .start a = .next s true ∧
      ∃ s' ∈ [St.dequal, .nequal, .coloneq, .operator], step s 61 = .brk s' true ∧
        finalAct s' [a, 61] = .tok ((op2Kind a).getD .error) := by decide +kernel

theorem op1_rows : ∀ c ∈ op1Chars, (op1Kind c).getD .error ∉ [.eof, .ws, .comment] := by decide

/-- a kind that a table of the specification lists is never EOF, WS or COMMENT; nor is the ERROR of a character it does not list -/
theorem kind_of_rows {f : UInt8 → Option Tok} {cs : List UInt8} (hf : ∀ {c}, (f c).isSome → c ∈ cs)
    (hcs : ∀ c ∈ cs, (f c).getD .error ∉ [.eof, .ws, .comment]) (c : UInt8) : (f c).getD .error ∉ [.eof, .ws, .comment] := by
  cases h : f c with
  | some k => exact h ▸ hcs c (hf (by simp [h]))
  | none => decide

theorem tok_word (w rest : Bytes) (p : Nat) (l : Option UInt8) (hok : (Item.word w).ok)
    (hsep : (Item.word w).sep rest) :
    ∃ q l', getNextToken ⟨w ++ rest, p, l⟩ = .tok ⟨kwLookup w, w, p, q⟩ ⟨rest, q, l'⟩ := by
  obtain ⟨c0, w', rfl, hl, hw'⟩ := hok
  simp only [Item.sep, isLetterB_eq, isAlnumB_eq, decide_eq_true_eq, decide_eq_false_iff_not] at hl hw' hsep
  exact tok_class (by decide) step_identifier (fun c h => class_ne_zero (.inr h))
    (class_ne_zero (.inr (.inr hl))) (step_start_letter hl) hw' hsep (finalAct_identifier _) p l

theorem tok_number (d rest : Bytes) (p : Nat) (l : Option UInt8) (hok : (Item.number d).ok)
    (hsep : (Item.number d).sep rest) :
    ∃ q l', getNextToken ⟨d ++ rest, p, l⟩ = .tok ⟨.number, d, p, q⟩ ⟨rest, q, l'⟩ := by
  obtain ⟨c0, d', rfl⟩ := List.exists_cons_of_ne_nil hok.1
  have hd := hok.2
  simp only [Item.sep, isDigitB_eq, decide_eq_true_eq, decide_eq_false_iff_not, List.forall_mem_cons] at hd hsep
  exact tok_class (by decide) step_number (fun c h => class_ne_zero (.inr (.inl h)))
    (class_ne_zero (.inr (.inl hd.1))) (step_start_digit hd.1) hd.2 hsep (finalAct_of_spec rfl) p l

theorem tok_blank (w rest : Bytes) (p : Nat) (l : Option UInt8) (hok : (Item.blank w).ok)
    (hsep : (Item.blank w).sep rest) :
    ∃ q l', getNextToken ⟨w ++ rest, p, l⟩ = .tok ⟨.ws, w, p, q⟩ ⟨rest, q, l'⟩ := by
  obtain ⟨c0, w', rfl⟩ := List.exists_cons_of_ne_nil hok.1
  have hw := hok.2
  simp only [Item.sep, isSpaceB_eq, decide_eq_true_eq, decide_eq_false_iff_not, List.forall_mem_cons] at hw hsep
  exact tok_class (by decide) step_whitespace (fun c h => class_ne_zero (.inl h))
    (class_ne_zero (.inl hw.1)) (step_start_space hw.1) hw.2 hsep (finalAct_of_spec rfl) p l

theorem tok_op1 (c : UInt8) (rest : Bytes) (p : Nat) (l : Option UInt8) (hok : (Item.op1 c).ok)
    (hsep : (Item.op1 c).sep rest) :
    ∃ q l', getNextToken ⟨[c] ++ rest, p, l⟩ = .tok ⟨(op1Kind c).getD .error, [c], p, q⟩ ⟨rest, q, l'⟩ := by
  obtain rfl | rfl | rfl | rfl : c = 61 ∨ c = 60 ∨ c = 62 ∨ c = 45 := by simpa [op1Chars] using op1Kind_isSome hok
  · have h0 : step .start 61 = .next .equal1 true := by decide
    exact tok_lookahead (.cons (by decide) h0 .nil) (by decide) (finalAct_of_spec rfl)
      (fun d hd => by rw [step_equal1, if_neg (by simpa using hsep d hd)]) p l
  · have h0 : step .start 60 = .next .operatorStart true := by decide
    exact tok_lookahead (.cons (by decide) h0 .nil) (by decide) (finalAct_operator rfl (by decide))
      (fun d hd => by rw [step_operatorStart, if_neg (by simpa using hsep d hd)]) p l
  · have h0 : step .start 62 = .next .operatorStart true := by decide
    exact tok_lookahead (.cons (by decide) h0 .nil) (by decide) (finalAct_operator rfl (by decide))
      (fun d hd => by rw [step_operatorStart, if_neg (by simpa using hsep d hd)]) p l
  · have h0 : step .start 45 = .next .dash true := by decide
    exact tok_lookahead (.cons (by decide) h0 .nil) (by decide) (finalAct_of_spec rfl)
      (fun d hd => by rw [step_dash, if_neg (by simpa using hsep d hd)]) p l

theorem tok_punct (c : UInt8) (rest : Bytes) (p : Nat) (l : Option UInt8) (hok : (Item.punct c).ok) :
    getNextToken ⟨[c] ++ rest, p, l⟩ = .tok ⟨(punctKind c).getD .error, [c], p, p + 1⟩ ⟨rest, p + 1, some c⟩ := by
  obtain ⟨hc, -, s, -, hs, hk⟩ := punct_rows c (punctKind_isSome hok)
  exact tok_brk .nil hc hs hk rest p l

theorem tok_op2 (a : UInt8) (rest : Bytes) (p : Nat) (l : Option UInt8) (hok : (Item.op2 a).ok) :
    getNextToken ⟨[a, 61] ++ rest, p, l⟩ = .tok ⟨(op2Kind a).getD .error, [a, 61], p, p + 2⟩ ⟨rest, p + 2, some 61⟩ := by
  obtain ⟨ha, -, s, -, hs, s', -, hs', hk⟩ := op2_rows a (op2Kind_isSome hok)
  exact tok_brk (.cons ha hs .nil) (by decide) hs' hk rest p l

theorem regexpBody_run (body : Bytes) (hb : ∀ c ∈ body, c ≠ 47 ∧ c ≠ 0) (rest : Bytes) :
    ∀ (buf : Bytes) (pos : Nat), regexpBody buf pos (body ++ 47 :: rest) =
      .done .regexp (buf ++ body) ⟨rest, pos + body.length + 1, some 47⟩ := by
  induction body with
  | nil => intro buf pos; simp [regexpBody]
  | cons c cs ih =>
    intro buf pos
    obtain ⟨h47, h0⟩ := hb c (by simp)
    simp only [List.cons_append, regexpBody, h47, h0, ↓reduceIte]
    rw [ih (fun x hx => hb x (by simp [hx])), List.append_assoc, Nat.add_right_comm pos 1]
    rfl

theorem tok_regexp (body rest : Bytes) (p : Nat) (l : Option UInt8) (hok : (Item.regexp body).ok) :
    getNextToken ⟨64 :: 47 :: (body ++ [47]) ++ rest, p, l⟩ =
      .tok ⟨.regexp, body, p, p + body.length + 3⟩ ⟨rest, p + body.length + 3, some 47⟩ := by
  -- `@` leaves the chain for a loop of its own, so this token is followed through `loop` itself and not through a `Run`
  refine getNextToken_of_loop ?_ (finalAct_of_spec (s := .regexp) rfl)
  rw [List.cons_append, loop_cons (by decide), show step .start 64 = .regexp by decide]
  simp only [regexpBranch, Reader.read, List.cons_append, ne_eq, not_true_eq_false, ↓reduceIte, List.append_assoc,
    List.nil_append]
  rw [regexpBody_run body hok rest, List.nil_append,
    show p + 1 + 1 + body.length + 1 = p + body.length + 3 by omega]

/-- `--`: SSTART, SDASH, SCOMMENTSTART -/
theorem run_dashes : Run .start [45, 45] .commentStart :=
  .cons (s₁ := .dash) (by decide) (by decide) (.cons (by decide) (by decide) .nil)

theorem tok_lineComment (text rest : Bytes) (p : Nat) (l : Option UInt8) (hok : (Item.lineComment text).ok)
    (hsep : (Item.lineComment text).sep rest) :
    ∃ q l', getNextToken ⟨45 :: 45 :: text ++ rest, p, l⟩ = .tok ⟨.comment, 45 :: 45 :: text, p, q⟩ ⟨rest, q, l'⟩ := by
  obtain ⟨htext, hhead⟩ := hok
  -- SCOMMENTSTART if there is no text, else SCOMMENT; both un-read the newline into SCOMMENT
  have hrun : ∃ s, (s = .commentStart ∨ s = .comment) ∧ Run .start (45 :: 45 :: text) s := by
    cases text with
    | nil => exact ⟨_, .inl rfl, run_dashes⟩
    | cons t0 ts =>
      obtain ⟨ht10, ht0⟩ := htext t0 (by simp)
      have ht40 : t0 ≠ 40 := by simpa using hhead
      exact ⟨_, .inr rfl, run_dashes.append (.cons ht0 (by rw [step_commentStart, if_neg ht40, if_neg ht10])
        (.self fun c hc => ⟨(htext c (by simp [hc])).2, by rw [step_comment, if_neg (htext c (by simp [hc])).1]⟩))⟩
  obtain ⟨s, rfl | rfl, hrun⟩ := hrun <;>
    exact tok_unread hrun (by decide) (finalAct_of_spec rfl)
      (fun c hc => ⟨.comment, by rw [hsep c hc]; decide, finalAct_of_spec rfl⟩) p l

/-- what the three scanning states remember of the closer `)--` -/
def bcSeen : St → Bytes
  | .blockCommentStartEnd => [41]
  | .blockCommentEndEnd => [41, 45]
  | _ => []

/-- one character of a block comment's body: as long as the closer does not occur in what the state remembers followed by
the rest of the body, the scan goes on, and what the new state remembers followed by the new rest is a suffix of that -/
theorem step_block (s : St) (hs : s = .blockComment ∨ s = .blockCommentStartEnd ∨ s = .blockCommentEndEnd) (c : UInt8)
    (cs : Bytes) (h : ¬ closer <:+: bcSeen s ++ c :: cs) :
    ∃ s', step s c = .next s' true ∧ (s' = .blockComment ∨ s' = .blockCommentStartEnd ∨ s' = .blockCommentEndEnd) ∧
      bcSeen s' ++ cs <:+ bcSeen s ++ c :: cs := by
  rcases hs with rfl | rfl | rfl
  · rw [step_blockComment]
    by_cases h41 : c = 41
    · exact ⟨.blockCommentStartEnd, if_pos h41, .inr (.inl rfl), [], by rw [h41]; rfl⟩
    · exact ⟨.blockComment, if_neg h41, .inl rfl, [c], rfl⟩
  · rw [step_blockCommentStartEnd]
    by_cases h45 : c = 45
    · exact ⟨.blockCommentEndEnd, if_pos h45, .inr (.inr rfl), [], by rw [h45]; rfl⟩
    · by_cases h41 : c = 41
      · exact ⟨.blockCommentStartEnd, (if_neg h45).trans (if_pos h41), .inr (.inl rfl), [41], by rw [h41]; rfl⟩
      · exact ⟨.blockComment, (if_neg h45).trans (if_neg h41), .inl rfl, [41, c], rfl⟩
  · rw [step_blockCommentEndEnd]
    by_cases h41 : c = 41
    · exact ⟨.blockCommentStartEnd, if_pos h41, .inr (.inl rfl), [41, 45], by rw [h41]; rfl⟩
    · -- here a `-` would complete the closer
      have h45 : c ≠ 45 := fun h45 => h ⟨[], cs, by rw [h45]; rfl⟩
      exact ⟨.blockComment, (if_neg h41).trans (if_neg h45), .inl rfl, [41, 45, c], rfl⟩

theorem run_block (b : Bytes) : ∀ (s : St), (s = .blockComment ∨ s = .blockCommentStartEnd ∨ s = .blockCommentEndEnd) →
    ¬ closer <:+: bcSeen s ++ b → (∀ c ∈ b, c ≠ 0) → Run s (b ++ [41, 45]) .blockCommentEndEnd := by
  induction b with
  | nil =>
    intro s hs _ _
    have h1 : step s 41 = .next .blockCommentStartEnd true := by rcases hs with rfl | rfl | rfl <;> decide
    exact .cons (by decide) h1 (.cons (by decide) (by decide) .nil)
  | cons c cs ih =>
    intro s hs hinf h0
    obtain ⟨s', hstep, hs', hsuf⟩ := step_block s hs c cs hinf
    exact .cons (h0 c (by simp)) hstep (ih s' hs' (fun h => hinf (h.trans hsuf.isInfix)) (fun x hx => h0 x (by simp [hx])))

theorem tok_blockComment (body rest : Bytes) (p : Nat) (l : Option UInt8) (hok : (Item.blockComment body).ok) :
    getNextToken ⟨45 :: 45 :: 40 :: (body ++ [41, 45, 45]) ++ rest, p, l⟩ =
      .tok ⟨.comment, 45 :: 45 :: 40 :: (body ++ [41, 45, 45]), p, p + body.length + 6⟩
        ⟨rest, p + body.length + 6, some 45⟩ := by
  have hrun : Run .start ([45, 45] ++ 40 :: (body ++ [41, 45])) .blockCommentEndEnd :=
    run_dashes.append (.cons (by decide) (by decide) (run_block body .blockComment (.inl rfl) hok.2 hok.1))
  have := tok_brk (c := 45) (s' := .blockCommentFinal) hrun (by decide) (by decide) (finalAct_of_spec rfl) rest p l
  simpa [Nat.add_assoc] using this

theorem tok_item (it : Item) (rest : Bytes) (p : Nat) (l : Option UInt8) (hok : it.ok) (hsep : it.sep rest) :
    ∃ q l', getNextToken ⟨it.render ++ rest, p, l⟩ = .tok ⟨it.kind, it.lexeme, p, q⟩ ⟨rest, q, l'⟩ := by
  cases it with
  | word w => exact tok_word w rest p l hok hsep
  | number d => exact tok_number d rest p l hok hsep
  | str q sps =>
    have hr : (Item.str q sps).render ++ rest = q.byte :: (renderAll sps ++ q.byte :: rest) := by
      simp [Item.render, literal]
    rw [hr]
    exact ⟨_, _, getNextToken_string q sps rest p l (okAll_tail_indep q [] rest sps hok)⟩
  | regexp body => exact ⟨_, _, tok_regexp body rest p l hok⟩
  | punct c => exact ⟨_, _, tok_punct c rest p l hok⟩
  | op2 a => exact ⟨_, _, tok_op2 a rest p l hok⟩
  | op1 c => exact tok_op1 c rest p l hok hsep
  | blank w => exact tok_blank w rest p l hok hsep
  | lineComment text => exact tok_lineComment text rest p l hok hsep
  | blockComment body => exact ⟨_, _, tok_blockComment body rest p l hok⟩

/-- no item is lexed to EOF, and exactly blank runs and comments to WS or COMMENT -/
theorem item_kind (it : Item) : it.kind ≠ .eof ∧ (it.kind != .ws && it.kind != .comment) = !it.insignificant := by
  have sig : ∀ {k : Tok}, k ∉ [.eof, .ws, .comment] → k ≠ .eof ∧ (k != .ws && k != .comment) = true := by simp
  cases it with
  | word w => exact sig (kwLookup_kind w)
  | punct c => exact sig (kind_of_rows punctKind_isSome (fun c hc => (punct_rows c hc).2.1) c)
  | op2 a => exact sig (kind_of_rows op2Kind_isSome (fun a ha => (op2_rows a ha).2.1) a)
  | op1 c => exact sig (kind_of_rows op1Kind_isSome op1_rows c)
  | _ => simp [Item.kind, Item.insignificant]

theorem renderItems_cons (it : Item) (its : List Item) : renderItems (it :: its) = it.render ++ renderItems its := by
  simp [renderItems]

theorem renderItems_append (xs ys : List Item) : renderItems (xs ++ ys) = renderItems xs ++ renderItems ys := by
  simp [renderItems]

theorem getTokens_items (items : List Item) : ∀ (p : Nat) (l : Option UInt8), WellSep [] items →
    ∃ ts, getTokens ⟨renderItems items, p, l⟩ = .tokens ts ∧ ts.map Token.kl = items.map Item.kl ++ [(.eof, [])] := by
  induction items with
  | nil =>
    intro p l _
    exact ⟨_, getTokens_nil p l, rfl⟩
  | cons it its ih =>
    intro p l hw
    obtain ⟨hok, hsep, hrest⟩ := hw
    simp only [List.append_nil] at hsep
    obtain ⟨q, l', ht⟩ := tok_item it (renderItems its) p l hok hsep
    obtain ⟨ts, hts, hkl⟩ := ih q l' hrest
    refine ⟨⟨it.kind, it.lexeme, p, q⟩ :: ts, ?_, ?_⟩
    · rw [renderItems_cons, getTokens_tok ht, if_neg (item_kind it).1, hts]; rfl
    · simp only [List.map_cons, hkl, List.cons_append]; rfl

theorem wellSep_append (tail : Bytes) (xs ys : List Item) :
    WellSep tail (xs ++ ys) ↔ WellSep (renderItems ys ++ tail) xs ∧ WellSep tail ys := by
  induction xs with
  | nil => simp [WellSep]
  | cons x xs ih =>
    simp only [List.cons_append, WellSep, ih, renderItems_append, List.append_assoc, and_assoc]

end Vore.Lex

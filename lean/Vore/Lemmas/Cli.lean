import Vore.Spec.CliDoc
/-!
# Vore.Lemmas.Cli — the flag space is finite: `∀` over it is a Boolean computation (C18)

Core Lean has no `Fintype`.  `allSeen p` evaluates `p` (`&&` over the constructors) on one flag
vector and one scenario of each kind that `run` and `spec` can tell apart (`Flags.seen`,
`Scenario.seen`: 1 536 × 4 runs); `Props/C18.lean` evaluates it with `decide +kernel` (kernel
reduction only, no axioms beyond `propext`), and `allSeen_seen`, `spec_seen`, `run_docEnv` carry the
result over to the WHOLE space.  `allRuns` is the enumeration of the whole space; `allRuns_iff`
derives it from the `∀`.
-/
namespace Vore.Cli

def allBool (p : Bool → Bool) : Bool := p true && p false
def allModeArg (p : ModeArg → Bool) : Bool := p .absent && p .new && p .nothing && p .overwrite && p .bogus &&
  p .empty && p .lower && p .confirm
def allFileSet (p : FileSet → Bool) : Bool := p .absent && p .one && p .several && p .glob && p .noneMatching
def allProgKind (p : ProgKind → Bool) : Bool := p .find && p .replace && p .failing

def allFlags (p : Flags → Bool) : Bool :=
  allBool fun a => allBool fun b => allFileSet fun c => allBool fun d => allBool fun e => allBool fun f =>
  allBool fun g => allModeArg fun h => allBool fun i => p ⟨a, b, c, d, e, f, g, h, i⟩

def allScenario (p : Scenario → Bool) : Bool :=
  allProgKind fun a => allBool fun b => allBool fun c => p ⟨a, b, c⟩

theorem allBool_iff {p : Bool → Bool} : allBool p = true ↔ ∀ x, p x = true := by
  simp only [allBool, Bool.and_eq_true]
  exact ⟨fun h x => by cases x <;> simp only [h], fun h => by simp only [h, and_self]⟩

theorem allModeArg_iff {p : ModeArg → Bool} : allModeArg p = true ↔ ∀ x, p x = true := by
  simp only [allModeArg, Bool.and_eq_true]
  exact ⟨fun h x => by cases x <;> simp only [h], fun h => by simp only [h, and_self]⟩

theorem allFileSet_iff {p : FileSet → Bool} : allFileSet p = true ↔ ∀ x, p x = true := by
  simp only [allFileSet, Bool.and_eq_true]
  exact ⟨fun h x => by cases x <;> simp only [h], fun h => by simp only [h, and_self]⟩

theorem allProgKind_iff {p : ProgKind → Bool} : allProgKind p = true ↔ ∀ x, p x = true := by
  simp only [allProgKind, Bool.and_eq_true]
  exact ⟨fun h x => by cases x <;> simp only [h], fun h => by simp only [h, and_self]⟩

theorem allFlags_iff {p : Flags → Bool} : allFlags p = true ↔ ∀ fl, p fl = true := by
  simp only [allFlags, allBool_iff, allFileSet_iff, allModeArg_iff]
  constructor
  · intro h fl; cases fl; apply h
  · intro h a b c d e f g hh i; exact h _

theorem allScenario_iff {p : Scenario → Bool} : allScenario p = true ↔ ∀ sc, p sc = true := by
  simp only [allScenario, allBool_iff, allProgKind_iff]
  constructor
  · intro h sc; cases sc; apply h
  · intro h a b c; exact h _

def allRuns (p : Flags → Scenario → Bool) : Bool := allFlags fun fl => allScenario fun sc => p fl sc

theorem allRuns_iff {p : Flags → Scenario → Bool} : allRuns p = true ↔ ∀ fl sc, p fl sc = true := by
  simp only [allRuns, allFlags_iff, allScenario_iff]

/-- the readings of main.go under which the documented behaviour is guaranteed: the
documented `-replace-mode` table with default NEW; `OpenFile` creates the file and opens it
for writing; the old content is discarded (by `O_TRUNC`, by `Truncate`, or both) -/
def docEnv (truncOpen truncCall : Bool) : Env :=
  { mAbsent := some .new, mNew := some .new, mNothing := some .nothing, mOverwrite := some .overwrite, mBogus := none,
    mEmpty := some .new, mLower := none, mConfirm := none,
    creates := true, writable := true, truncOpen := truncOpen, truncCall := truncCall }

def docEnvs : List Env := [docEnv true true, docEnv true false, docEnv false true]

theorem writeDoc_docEnv (a b pre : Bool) (f : Fmt) (h : (a || b) = true) :
    writeDoc (docEnv a b) pre f = (.holds f, false) := by
  simp [writeDoc, docEnv, h]

theorem parse_docEnv (a b : Bool) (m : ModeArg) : (docEnv a b).parse m = docMode m := by
  cases m <;> rfl

/-! ## what the decision sequence can tell apart

`run` and `spec` look at less than a flag vector and a scenario hold; it is enough to evaluate them on
one vector and one scenario of each kind they can tell apart. -/

/-- Of a scenario: whether the program compiles and whether there were matches.  It is never asked
whether the program searches or replaces, and under a documented reading `OpenFile` + `Truncate` do
the same to a file that exists as to one that does not (`writeDoc_docEnv`). -/
def Scenario.seen (sc : Scenario) : Scenario := ⟨bif sc.prog.isFailing then .failing else .find, sc.hits, false⟩

def FileSet.seen (c : FileSet) : FileSet :=
  bif c.isAbsent then .absent else bif c.isNoneMatching then .noneMatching else .one

/-- Of `-replace-mode`: what `parse` makes of it, under a documented reading `docMode`. -/
def ModeArg.seen (m : ModeArg) : ModeArg :=
  match docMode m with
  | none => .bogus
  | some .new => .new
  | some .nothing => .nothing
  | some .overwrite => .overwrite

def Flags.seen (fl : Flags) : Flags := { fl with mode := fl.mode.seen, files := fl.files.seen }

def allSeenFileSet (p : FileSet → Bool) : Bool := p .absent && p .one && p .noneMatching
def allSeenModeArg (p : ModeArg → Bool) : Bool := p .bogus && p .new && p .nothing && p .overwrite

theorem allSeenFileSet_seen {p : FileSet → Bool} (h : allSeenFileSet p = true) (c : FileSet) : p c.seen = true := by
  simp only [allSeenFileSet, Bool.and_eq_true] at h
  cases c <;> simp only [FileSet.seen, FileSet.isAbsent, FileSet.isNoneMatching, cond_true, cond_false, h]

theorem allSeenModeArg_seen {p : ModeArg → Bool} (h : allSeenModeArg p = true) (m : ModeArg) : p m.seen = true := by
  simp only [allSeenModeArg, Bool.and_eq_true] at h
  cases m <;> simp only [ModeArg.seen, docMode, h]

def allSeen (p : Flags → Scenario → Bool) : Bool :=
  allBool fun a => allBool fun b => allSeenFileSet fun c => allBool fun d => allBool fun e => allBool fun f =>
  allBool fun g => allSeenModeArg fun h => allBool fun i => allBool fun failing => allBool fun hits =>
    p ⟨a, b, c, d, e, f, g, h, i⟩ ⟨bif failing then .failing else .find, hits, false⟩

theorem allSeen_seen {p : Flags → Scenario → Bool} (h : allSeen p = true) (fl : Flags) (sc : Scenario) :
    p fl.seen sc.seen = true := by
  obtain ⟨a, b, c, d, e, f, g, m, i⟩ := fl
  have h := allSeenFileSet_seen (allBool_iff.mp (allBool_iff.mp h a) b) c
  have h := allBool_iff.mp (allBool_iff.mp (allBool_iff.mp (allBool_iff.mp h d) e) f) g
  have h := allBool_iff.mp (allSeenModeArg_seen h m) i
  exact allBool_iff.mp (allBool_iff.mp h sc.prog.isFailing) sc.hits

theorem spec_seen (fl : Flags) (sc : Scenario) (v : View) : spec fl sc v = spec fl.seen sc.seen v :=
  -- one component at a time, 3 + 8 + 5 evaluations of `spec`; all at once it would be 120
  calc spec fl sc v
    _ = spec fl sc.seen v := by
      obtain ⟨prog, _, _⟩ := sc
      cases prog <;> rfl
    _ = spec { fl with mode := fl.mode.seen } sc.seen v := by
      obtain ⟨_, _, _, _, _, _, _, m, _⟩ := fl
      cases m <;> rfl
    _ = spec fl.seen sc.seen v := by
      obtain ⟨_, _, c, _, _, _, _, _, _⟩ := fl
      cases c <;> rfl

/-- how the content gets discarded does not matter, nor more of the flags and the scenario than
`seen` keeps -/
theorem run_docEnv (a b : Bool) (h : (a || b) = true) (fl : Flags) (sc : Scenario) :
    run (docEnv a b) fl sc = run (docEnv true true) fl.seen sc.seen := by
  have hr : ∀ ran, report (docEnv a b) fl sc ran = report (docEnv true true) fl sc.seen ran := by
    intro ran
    simp only [report, writeDoc_docEnv a b sc.pre _ h, writeDoc_docEnv true true sc.seen.pre _ rfl]
  calc run (docEnv a b) fl sc
    _ = run (docEnv true true) fl sc.seen := by
      obtain ⟨prog, hits, pre⟩ := sc
      simp only [run, parse_docEnv, validate, compileAndRun, hr]
      -- what is left: `isFailing` of `prog` on one side, of `Scenario.seen`'s `prog` on the other
      cases prog <;> rfl
    _ = run (docEnv true true) { fl with mode := fl.mode.seen } sc.seen := by
      obtain ⟨_, _, _, _, _, _, _, m, _⟩ := fl
      cases m <;> rfl
    _ = run (docEnv true true) fl.seen sc.seen := by
      obtain ⟨_, _, c, _, _, _, _, _, _⟩ := fl
      cases c <;> rfl

theorem mem_docEnvs (e : Env) (h : e ∈ docEnvs) : ∃ a b, e = docEnv a b ∧ (a || b) = true := by
  simp [docEnvs] at h
  rcases h with h | h | h
  · exact ⟨true, true, h, rfl⟩
  · exact ⟨true, false, h, rfl⟩
  · exact ⟨false, true, h, rfl⟩

@[simp] theorem Exit.isOk_iff (e : Exit) : e.isOk = true ↔ e = .ok := by cases e <;> simp [Exit.isOk]
@[simp] theorem Stderr.isNone_iff (s : Stderr) : s.isNone = true ↔ s = .none := by cases s <;> simp [Stderr.isNone]
@[simp] theorem SearchFs.isUntouched_iff (s : SearchFs) : s.isUntouched = true ↔ s = .untouched := by
  cases s <;> simp [SearchFs.isUntouched]
@[simp] theorem SearchFs.ranAs_iff (s : SearchFs) (m : Mode) : s.ranAs m = true ↔ s = .library m := by
  cases s with
  | untouched => simp [SearchFs.ranAs]
  | library m' => cases m' <;> cases m <;> simp [SearchFs.ranAs]
@[simp] theorem isDoc_iff (f : Fmt) (out : List OutItem) : isDoc f out = true ↔ out = [.doc f] := by
  cases f <;> unfold isDoc <;> split <;> simp_all
@[simp] theorem FileState.holdsDoc_iff (f : Fmt) (s : FileState) : s.holdsDoc f = true ↔ s = .holds f := by
  cases f <;> unfold FileState.holdsDoc <;> split <;> simp_all
@[simp] theorem ProgKind.isFailing_iff (p : ProgKind) : p.isFailing = true ↔ p = .failing := by
  cases p <;> simp [ProgKind.isFailing]
@[simp] theorem FileSet.isNoneMatching_iff (s : FileSet) : s.isNoneMatching = true ↔ s = .noneMatching := by
  cases s <;> simp [FileSet.isNoneMatching]

theorem spec_valid {fl : Flags} {sc : Scenario} {o : Outcome} (h : spec fl sc o.view = true)
    (hd : documented fl = true) (hp : sc.prog ≠ .failing) :
    o.exit = .ok ∧ (fl.files ≠ .noneMatching → ∃ m, docMode fl.mode = some m ∧ o.searched = .library m ∧
      (sc.hits = true → fl.noOutput = false →
        (fl.json = true → o.stdout = [.doc .compact]) ∧ (fl.fjson = true → o.stdout = [.doc .formatted]) ∧
        (fl.jsonFile = true → o.jsonFile = .holds .compact) ∧
        (fl.fjsonFile = true → o.fjsonFile = .holds .formatted))) := by
  obtain ⟨exit, stdout, stderr, jf, fjf, searched⟩ := o
  cases hm : docMode fl.mode with
  | none => simp [documented, hm] at hd
  | some m =>
    -- with every `a → b` read as `¬a ∨ b`, the conclusion is the first branch of `spec`, test for test
    simpa [spec, Outcome.view, hd, hp, hm, Decidable.imp_iff_not_or, and_assoc, or_assoc] using h

theorem spec_invalid {fl : Flags} {sc : Scenario} {o : Outcome} (h : spec fl sc o.view = true)
    (hi : documented fl = false ∨ sc.prog = .failing) :
    o.exit ≠ .ok ∧ (o.stdout.any isMsg = true ∨ o.stderr ≠ .none) ∧
    o.jsonFile.unmodified = true ∧ o.fjsonFile.unmodified = true ∧ o.searched = .untouched := by
  have hc : (documented fl && !sc.prog.isFailing) = false := by
    cases hi with
    | inl h => simp [h]
    | inr h => simp [h, ProgKind.isFailing]
  obtain ⟨exit, stdout, stderr, jf, fjf, searched⟩ := o
  simpa [spec, Outcome.view, hc, and_assoc, ← Bool.not_eq_true] using h

end Vore.Cli

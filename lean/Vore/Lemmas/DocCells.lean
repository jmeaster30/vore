import Vore.Spec.DocOps
import Vore.Model.Tables
/-!
# Vore.Lemmas.DocCells — the hand-written evaluator computes the documented outcome in every
cell (operator × operand types), for all operand values

Independent of the regenerated tables (`Vore/Extracted.lean`); `C11_cells` combines it with
`evalBin = evalFromTable goEval`.

The case analysis of `evalBin_eq_doc` follows the dispatch of `executeBinaryExpr`: the left
operand's type and the operator select the arm, the right operand stays a variable (it is only
coerced), except under a string on the left, where `- * / %` look at the right operand's type.
-/
namespace Vore
open Vore.Tables Vore.Spec

/-- the outcome of `executeBinaryExpr` that corresponds to a documented outcome: a zero divisor
is Go's run-time panic, a combination the table does not list is the `SHOULDN'T GET HERE`
panic of the left operand's type -/
def ofDoc (lt : PT) : DocOps.Res → EvalRes
  | .val v => .val v
  | .divByZero => .panic divZeroTag
  | .undefined => .panic (undefinedTag lt)

/-- a zero divisor stands where a number would -/
def Spec.DocOps.Res.type? : DocOps.Res → Option PT
  | .val v => some v.type
  | .divByZero => some .number
  | .undefined => none

/-- every arm agrees by computation; `/` and `%` carry the zero-divisor guard, which `ofDoc`
passes through -/
theorem evalBin_eq_doc (op : Op) (l r : PVal) :
    evalBin op l r = ofDoc l.type (DocOps.evalBin op l r) := by
  cases l with
  | str _ =>
    cases op with
    | minus | mult => cases r <;> rfl
    | div | mod =>
      cases r with
      | num m => exact Eq.symm (apply_ite (ofDoc .string) (m = 0) _ _)
      | _ => rfl
    | _ => rfl
  | num _ =>
    cases op with
    | div | mod => exact Eq.symm (apply_ite (ofDoc .number) (r.getNumber = 0) _ _)
    | _ => rfl
  | bool _ => cases op <;> rfl

/-! ## the result column of the documented table is the type of the documented value

A statement about `Spec/DocOps.lean` alone: the type of what a row computes does not depend on
the operands (that is why the table can have a result column), so each row is run once. -/

namespace Spec.DocOps

theorem findBin_some {tbl : List Row} {op : Op} {lt rt : PT} {row : Row}
    (h : findBin tbl op lt rt = some row) : row ∈ tbl ∧ row.lhs.isSome := by
  induction tbl with
  | nil => cases h
  | cons r rs ih =>
    unfold findBin at h
    split at h
    · next ha =>
      cases h
      -- a row without a left column applies to no binary operation
      exact ⟨List.mem_cons_self, by cases hl : row.lhs <;> simp [Row.appliesBin, hl] at ha ⊢⟩
    · exact (ih h).imp_left (List.mem_cons_of_mem _)

theorem type?_guard (c : Prop) [Decidable c] (x : Int) :
    Res.type? (if c then .divByZero else .val (.num x)) = some .number := by
  split <;> rfl

theorem Row.runBin_type (row : Row) (l r l' r' : PVal) :
    (row.runBin l r).type? = (row.runBin l' r').type? := by
  obtain ⟨_, op, ⟨k, _⟩, _⟩ := row
  cases k with
  | number =>
    cases op with
    | div | mod => exact (type?_guard _ _).trans (type?_guard _ _).symm
    | _ => rfl
  | _ => cases op <;> rfl

theorem table_typed :
    ∀ row ∈ table, row.lhs.isSome → (row.runBin default default).type? = some row.res := by
  decide

theorem evalBin_type (op : Op) (l r : PVal) :
    (evalBin op l r).type? = binType l.type r.type op := by
  unfold evalBin binType
  cases h : findBin table op l.type r.type with
  | none => rfl
  | some row =>
    obtain ⟨hm, hl⟩ := findBin_some h
    exact (Row.runBin_type row l r default default).trans (table_typed row hm hl)

end Spec.DocOps

theorem evalBin_cells_documented (op : Op) (l r : PVal) (t : PT)
    (h : DocOps.binType l.type r.type op = some t) :
    (DocOps.evalBin op l r).toEvalRes = some (evalBin op l r)
    ∧ ∀ v, DocOps.evalBin op l r = .val v → v.type = t := by
  rw [evalBin_eq_doc]
  rw [← DocOps.evalBin_type] at h
  generalize DocOps.evalBin op l r = d at h ⊢
  cases d with
  | val v => exact ⟨rfl, fun _ hv => by cases hv; exact Option.some.inj h⟩
  | divByZero => exact ⟨rfl, nofun⟩
  | undefined => cases h

end Vore

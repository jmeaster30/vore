import Vore.Lemmas.ParserPratt
/-!
# Vore.Lemmas.ParserStmt — simulation of the process-statement parser (mutual block)

`parse_process_statements` tests `token_index < len(tokens)-1` BEFORE skipping blanks: at the final
EOF it returns the statements read so far (the caller then reports "Expected 'end'"), while after
trailing blanks it reads the EOF as a statement and reports that.  Both are errors for every caller;
the relation `SimSt` records exactly this: `ok … at EOF` on the model side may face `err` on the
grammar side, and every caller is shown to turn the former into an error (`simSt_bind`).
-/
namespace Vore.Parser
open Vore Vore.Grammar

variable {ts : List Token}

theorem parseProcessSet_sim (h : EndsEof ts) {i : Nat} {t : Token}
    (htk : tk ts i = some t) (hs : ignorable t.kind = false) (hk : t.kind ≠ .eof) :
    Sim ts (i + 1) (parseProcessSet ts i) (pProcessSet (strip (ts.drop i))) := by
  rw [parseProcessSet, pProcessSet, next_head htk hs]
  apply sim_expect (· = .identifier) (by decide) h (h.after htk hk); intro c t1 hk1 hb1
  rw [sig_lex hk1 rfl]
  apply sim_expect (· = .to) (by decide) h hb1; intro c2 t2 _ hb2
  apply sim_skip h hb2; intro c3 t3 p3
  exact sim_map (parseProcessExpression_sim h p3.bnd)

/-- `return e` and `debug e`: a keyword, then a process expression wrapped by `mk` -/
theorem keywordExpr_sim (h : EndsEof ts) (mk : PExpr → Stmt) {i : Nat} {t : Token}
    (htk : tk ts i = some t) (hs : ignorable t.kind = false) (hk : t.kind ≠ .eof) :
    Sim ts (i + 1)
      (withSkipTok ts (i + 1) fun c _ => (parseProcessExpression ts c).bind fun e k => .ok (mk e) k)
      (next (strip (ts.drop i)) fun _ r => (pProcessExpression r).bind fun e k => .ok (mk e) k) := by
  rw [next_head htk hs]
  apply sim_skip h (h.after htk hk); intro c t1 p1
  exact sim_map (parseProcessExpression_sim h p1.bnd)

theorem parseProcessReturn_sim (h : EndsEof ts) {i : Nat} {t : Token}
    (htk : tk ts i = some t) (hs : ignorable t.kind = false) (hk : t.kind ≠ .eof) :
    Sim ts (i + 1) (parseProcessReturn ts i) (pProcessReturn (strip (ts.drop i))) :=
  keywordExpr_sim h .ret htk hs hk

theorem parseProcessDebug_sim (h : EndsEof ts) {i : Nat} {t : Token}
    (htk : tk ts i = some t) (hs : ignorable t.kind = false) (hk : t.kind ≠ .eof) :
    Sim ts (i + 1) (parseProcessDebug ts i) (pProcessDebug (strip (ts.drop i))) :=
  keywordExpr_sim h .debug htk hs hk

def SimSt (ts : List Token) (lo : Nat) : Res Stmt → GR Stmt → Prop
  | .ok v k, .ok v' r => v = v' ∧ r = strip (ts.drop k) ∧ lo ≤ k ∧ k < ts.length ∧ SigAt ts k
  | .ok _ k, .err => ∃ t, tk ts k = some t ∧ t.kind = .eof
  | .error _ _, .err => True
  | _, _ => False

def SimO (ts : List Token) (i : Nat) : Res (Option Stmt) → GR (Option Stmt) → Prop
  | .ok (some s) k, .ok (some s') r => s = s' ∧ r = strip (ts.drop k) ∧ i < k ∧ k < ts.length
  | .ok none k, .ok none r => k = i ∧ r = strip (ts.drop i)
  | .error _ _, .err => True
  | _, _ => False

def IsErr {β : Type} : Res β → Prop
  | .error _ _ => True
  | _ => False

theorem SimSt.inv {lo : Nat} {r : Res Stmt} {g : GR Stmt} (h : SimSt ts lo r g) :
    (∃ v k, r = .ok v k ∧ g = .ok v (strip (ts.drop k)) ∧ lo ≤ k ∧ k < ts.length ∧ SigAt ts k) ∨
    (∃ v k t, r = .ok v k ∧ g = .err ∧ tk ts k = some t ∧ t.kind = .eof) ∨
    (∃ m a, r = .error m a ∧ g = .err) :=
  match r, g, h with
  | .ok v k, .ok _ _, ⟨rfl, rfl, h1, h2, h3⟩ => .inl ⟨v, k, rfl, rfl, h1, h2, h3⟩
  | .ok v k, .err, ⟨t, h1, h2⟩ => .inr (.inl ⟨v, k, t, rfl, rfl, h1, h2⟩)
  | .error m a, .err, _ => .inr (.inr ⟨m, a, rfl, rfl⟩)

/-- after a statement list the cursor is at a significant token; the list was anchored at `lo`, behind the
caller's anchor `lo'` -/
theorem simSt_bind {β : Type} {lo lo' : Nat} {r : Res Stmt} {g : GR Stmt}
    {K : Stmt → Nat → Res β} {K' : Stmt → List STok → GR β}
    (hlo : lo' ≤ lo) (h : SimSt ts lo r g)
    (hk : ∀ v k t, At ts lo' k t → Sim ts lo' (K v k) (K' v (strip (ts.drop k))))
    (heof : ∀ v k t, tk ts k = some t → t.kind = .eof → IsErr (K v k)) :
    Sim ts lo' (r.bind K) (g.bind K') := by
  rcases h.inv with ⟨v, k, rfl, rfl, h1, _, t, h3, h4⟩ | ⟨v, k, t, rfl, rfl, h1, h2⟩ | ⟨m, a, rfl, rfl⟩
  · exact hk v k t ⟨h3, h4, Nat.le_trans hlo h1⟩
  · show Sim ts lo' (K v k) .err
    match K v k, heof v k t h1 h2 with
    | .error _ _, _ => exact sim_err
  · exact sim_err

theorem simSt_map {lo lo' : Nat} {r : Res Stmt} {g : GR Stmt} {F : Stmt → Stmt} (hlo : lo' ≤ lo) (h : SimSt ts lo r g) :
    SimSt ts lo' (r.bind fun v k => .ok (F v) k) (g.bind fun v l => .ok (F v) l) := by
  rcases h.inv with ⟨v, k, rfl, rfl, h1, h2, h3⟩ | ⟨v, k, t, rfl, rfl, h1, h2⟩ | ⟨m, a, rfl, rfl⟩
  · exact ⟨rfl, rfl, Nat.le_trans hlo h1, h2, h3⟩
  · exact ⟨t, h1, h2⟩
  · trivial

theorem simO_some {i : Nat} {r : Res Stmt} {g : GR Stmt} (h : Sim ts (i + 1) r g) :
    SimO ts i (r.bind fun s k => .ok (some s) k) (g.bind fun s k => .ok (some s) k) := by
  rcases h.inv with ⟨v, k, rfl, rfl, h1, h2⟩ | ⟨m, a, rfl, rfl⟩
  · exact ⟨rfl, rfl, h1, h2⟩
  · trivial

structure StmtIH (ts : List Token) (f : Nat) : Prop where
  stmts : ∀ i, i < ts.length → 4 * (ts.length - i) + 3 ≤ f →
    SimSt ts i (parseStatements ts f i) (pStatements f (strip (ts.drop i)))
  stmt : ∀ i t, tk ts i = some t → ignorable t.kind = false → 4 * (ts.length - i) + 2 ≤ f →
    SimO ts i (parseStatement ts f i) (pStatement f (strip (ts.drop i)))
  pif : ∀ i t, tk ts i = some t → ignorable t.kind = false → t.kind = .if_ → 4 * (ts.length - i) + 1 ≤ f →
    Sim ts (i + 1) (parseProcessIf ts f i) (pProcessIf f (strip (ts.drop i)))
  ploop : ∀ i t, tk ts i = some t → ignorable t.kind = false → t.kind = .loop → 4 * (ts.length - i) + 1 ≤ f →
    Sim ts (i + 1) (parseProcessLoop ts f i) (pProcessLoop f (strip (ts.drop i)))

/-- `stmts; skip; expect 'end'`: what `if … else` and `loop` end with.  A list that stopped at the final EOF finds
no `end` there -/
theorem stmtsEnd_sim (h : EndsEof ts) {lo lo' : Nat} {r : Res Stmt} {g : GR Stmt} (hlo : lo' ≤ lo)
    (hl : SimSt ts lo r g) (mk : Stmt → Stmt) :
    Sim ts lo'
      (r.bind fun b nx => withSkipTok ts nx fun c t => if t.kind = .end_ then .ok (mk b) (c + 1) else .error expEnd c)
      (g.bind fun b l => next l fun t r => if t.kind = .end_ then .ok (mk b) r else .err) := by
  apply simSt_bind hlo hl
  · intro b nx t p
    apply sim_expect (· = .end_) (by decide) h p.bnd; intro c t _ hb
    exact sim_ok rfl hb
  · intro b k t htk hk
    simp [withSkipTok_sig htk (eof_sig hk), hk, IsErr]

theorem stmt_sim (h : EndsEof ts) : ∀ f, StmtIH ts f
  | 0 => by constructor <;> intros <;> exact absurd ‹_ ≤ 0› (Nat.not_succ_le_zero _)
  | f + 1 => by
    have ih := stmt_sim h f
    exact {
      stmts := fun i hi hf => by
        rw [parseStatements, pStatements]
        split
        · obtain ⟨w, t, hsk, htk, hs, hle, hst⟩ := skip_spec h hi
          simp only [withSkipTok, hsk, htk]
          rw [hst]
          match parseStatement ts f w, pStatement f (strip (ts.drop w)),
            ih.stmt w t htk hs (fuel_rank_le hf hle (by decide)) with
          | .ok (some s) k, .ok (some _) _, ⟨rfl, rfl, hwk, hkl⟩ =>
            have hik : i < k := Nat.lt_of_le_of_lt hle hwk
            exact simSt_map (Nat.le_of_lt hik) (ih.stmts k hkl (fuel_later hf ⟨hik, hkl⟩ (by decide)))
          | .ok none _, .ok none _, ⟨rfl, rfl⟩ => exact ⟨rfl, rfl, hle, lt_of_tk htk, t, htk, hs⟩
          | .error _ _, .err, _ => trivial
        · -- at the final EOF the model stops; the grammar reads EOF as a statement and fails
          obtain ⟨t, htk, hk⟩ := h.last_eof (Nat.le_antisymm hi (Nat.le_of_not_lt ‹_›))
          obtain ⟨f', rfl⟩ := fuel_pos (fuel_rank hf (b := 1) (by decide))
          rw [pStatement, next_head htk (eof_sig hk)]
          simp [hk, GR.bind, SimSt, htk]
      stmt := fun i t htk hs hf => by
        rw [parseStatement, pStatement, next_head htk hs]
        simp only [withTok, htk, sig_kind]
        refine ite_rel (fun hk => simO_some (parseProcessSet_sim h htk hs (by simp [hk]))) fun _ => ?_
        refine ite_rel (fun hk => simO_some (ih.pif i t htk hs hk (fuel_rank hf (by decide)))) fun _ => ?_
        refine ite_rel (fun hk => simO_some (parseProcessReturn_sim h htk hs (by simp [hk]))) fun _ => ?_
        refine ite_rel (fun hk => simO_some (parseProcessDebug_sim h htk hs (by simp [hk]))) fun _ => ?_
        refine ite_rel (fun hk => simO_some (ih.ploop i t htk hs hk (fuel_rank hf (by decide)))) fun _ => ?_
        refine ite_rel (fun hk => ⟨rfl, rfl, Nat.lt_succ_self _, h.succ_lt htk (by simp [hk])⟩) fun _ => ?_
        refine ite_rel (fun hk => ⟨rfl, rfl, Nat.lt_succ_self _, h.succ_lt htk (by simp [hk])⟩) fun _ => ?_
        refine ite_rel (fun _ => ⟨rfl, rfl⟩) fun _ => ?_
        exact ite_rel (fun _ => ⟨rfl, rfl⟩) fun _ => trivial
      pif := fun i t htk hs hk hf => by
        rw [parseProcessIf, pProcessIf, next_head htk hs]
        apply sim_skip h (h.after htk (by simp [hk])); intro c t1 p1
        apply sim_bind (parseProcessExpression_sim h p1.bnd); intro e nx _ hb
        apply sim_expect (· = .then_) (by decide) h hb; intro c2 t2 _ hb2
        apply sim_skip h hb2; intro c3 t3 p3
        apply simSt_bind p3.le (ih.stmts c3 p3.bnd.2 (fuel_later hf p3.bnd (by decide)))
        · intro tb fi t4 p4
          apply sim_tok p4.tk p4.sig
          refine sim_ite (fun hk4 => ?_) fun _ => ?_
          · have hb4 := p4.succ h (by simp [hk4])
            exact stmtsEnd_sim h hb4.1 (ih.stmts (fi + 1) hb4.2 (fuel_later hf hb4 (by decide))) _
          · -- no `else`: the token just read is looked at again, now for `end`
            rw [withSkipTok_sig p4.tk p4.sig]
            exact sim_ite (fun hk5 => sim_ok rfl (p4.succ h (by simp [hk5]))) fun _ => sim_err
        · intro v k t' htk' hk'
          simp [withTok, withSkipTok_sig htk' (eof_sig hk'), htk', hk', IsErr]
      ploop := fun i t htk hs hk hf => by
        rw [parseProcessLoop, pProcessLoop, next_head htk hs]
        apply sim_skip h (h.after htk (by simp [hk])); intro c t1 p1
        exact stmtsEnd_sim h p1.le (ih.stmts c p1.bnd.2 (fuel_later hf p1.bnd (by decide))) _ }

end Vore.Parser

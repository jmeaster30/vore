import Vore.Lemmas.ResolveWF
import Vore.Lemmas.GenLink
/-!
# Vore.Lemmas.GenTwoPass — the one-pass generator emits the two-pass code (programs without global patterns)

`Vore.gen` transcribes generate.go: one pass that resolves names through `state.variables` (name ↦ capture or
subroutine address) while it emits code.  Stage 2 of C01 is proved for the two-pass reading `genR pcOf ∘
resolve`.  This file proves the two equal whenever no global pattern (`set … to pattern`) is in scope: if
`resolveWith` accepts the expression, `gen` succeeds, with exactly the code `genR` emits for the resolved
expression, the same loop ids and a scope that is the image of the resolver's scope under `id ↦ address`.
(With global patterns `gen` relocates stored code and re-uses its loop ids, so the two differ by a renaming of
loop ids; that case stays tied by the bytecode correspondence L4.)
-/
namespace Vore
open Vore.Spec

/-- the resolver's scope entry seen by the generator: a subroutine id becomes its address -/
def conv (pcOf : Nat → Nat) (kv : String × Option Nat) : String × Option Nat := (kv.1, kv.2.map pcOf)

theorem lookup_conv (pcOf : Nat → Nat) (l : List (String × Option Nat)) (x : String) :
    lookup (l.map (conv pcOf)) x = (lookupVar l x).map (Option.map pcOf) := by
  simp only [lookup, lookupVar, List.find?_map, Option.map_map]
  rfl

theorem insertKV_absent {α} (l : List (String × α)) (k : String) (v : α) (h : lookup l k = none) :
    insertKV l k v = (k, v) :: l := by
  have := List.find?_eq_none.mp (Option.map_eq_none_iff.mp h)
  unfold insertKV
  rw [List.filter_eq_self.mpr (fun a ha => by simpa using this a ha)]

theorem forget_conv (pcOf : Nat → Nat) (outer l : List (String × Option Nat)) :
    (l.map (conv pcOf)).filter (fun kv => kv.2.isSome || (lookup (outer.map (conv pcOf)) kv.1).isSome) =
      (l.filter (fun kv => kv.2.isSome || (lookupVar outer kv.1).isSome)).map (conv pcOf) := by
  rw [List.filter_map]
  congr 2
  funext kv
  simp only [Function.comp, conv, lookup_conv, Option.isSome_map]

/-- the generator's state that corresponds to the resolver's `est`: no global patterns, the resolver's scope with every
subroutine id replaced by its address, loop-id counter `nid` -/
def stOf (pcOf : Nat → Nat) (tr : List (String × Stmt)) (est : ElabSt) (nid : Nat) : GenState :=
  { variables := est.vars.map (conv pcOf), globals := [], transforms := tr, nextId := nid }

section
variable {pcOf : Nat → Nat} {tr : List (String × Stmt)}

theorem stOf_variables (est : ElabSt) (nid : Nat) : (stOf pcOf tr est nid).variables = est.vars.map (conv pcOf) := rfl

theorem lookup_stOf (est : ElabSt) (nid : Nat) (x : String) :
    lookup (stOf pcOf tr est nid).variables x = (lookupVar est.vars x).map (Option.map pcOf) :=
  lookup_conv pcOf est.vars x

theorem forget_stOf (outer : List (String × Option Nat)) (est : ElabSt) (nid : Nat) :
    forgetCaptures (outer.map (conv pcOf)) (stOf pcOf tr est nid) = stOf pcOf tr (forgetVars outer est) nid := by
  simp only [forgetCaptures, forgetVars, stOf, forget_conv]

/-- declaring a name that is not in scope -/
theorem insert_stOf {est : ElabSt} {x : String} (hx : lookupVar est.vars x = none) (v : Option Nat) (nid n : Nat) :
    { stOf pcOf tr est nid with variables := insertKV (stOf pcOf tr est nid).variables x (v.map pcOf) } =
      stOf pcOf tr { vars := (x, v) :: est.vars, nextSub := n } nid := by
  rw [insertKV_absent _ _ _ (by rw [lookup_stOf, hx]; rfl)]
  rfl
end

/-- what the correspondence says of one successful resolution `e, est ↦ r, est'`: from the image of `est`, `gen` emits the
code of `r` wherever `pcOf` places its subroutines, and ends in the image of `est'` -/
def Emits (pcOf : Nat → Nat) (tr : List (String × Stmt)) (e : Expr) (est : ElabSt) (r : RExpr) (est' : ElabSt) :
    Prop :=
  ∀ off nid : Nat, Consistent pcOf r off →
    gen e off (stOf pcOf tr est nid) = .ok ((genR pcOf r off nid).1, stOf pcOf tr est' (genR pcOf r off nid).2)

theorem gen_of_resolve (inlineG : GEnv → Expr → ElabSt → Option (RExpr × ElabSt)) (pcOf : Nat → Nat)
    (tr : List (String × Stmt)) :
    ∀ e est r est', resolveWith inlineG [] e est = some (r, est') → Emits pcOf tr e est r est' :=
  resolveWith_induct (P := Emits pcOf tr)
    (PC := fun body outer n est r est' => ∀ off nid : Nat, Consistent pcOf r off →
      genRepeat (fun o s => gen body o (forgetCaptures (outer.map (conv pcOf)) s)) n off (stOf pcOf tr est nid) =
        .ok ((genR pcOf r off nid).1, stOf pcOf tr est' (genR pcOf r off nid).2))
    (empty := fun _ _ _ => rfl) (atom := fun _ _ _ => rfl)
    (inl := fun {neg _ _} _ _ _ => by cases neg <;> rfl)
    (backref := fun hlv _ _ _ => by simp only [gen, lookup_stOf, hlv, Option.map_some, Option.map_none, genR])
    (call := fun hlv _ _ _ => by simp only [gen, lookup_stOf, hlv, Option.map_some, genR])
    (global := fun _ hf => by cases hf)
    (seq := fun iha ihb off nid hc => by
      simp only [gen, bind, Except.bind, iha off nid hc.1, genR_length, ihb _ _ hc.2, pure, Except.pure, genR])
    (branch := fun ihl ihr off nid hc => by
      simp only [gen, bind, Except.bind, ihl _ nid hc.1, genR_length, ihr _ _ hc.2, pure, Except.pure, genR])
    (dec := fun ih hx off nid hc => by
      simp only [gen, bind, Except.bind, ih _ nid hc, lookup_stOf, hx, Option.map_none, Option.isSome_none,
        Bool.false_eq_true, if_false, pure, Except.pure, genR]
      exact congrArg (fun s => Except.ok (_, s)) (insert_stOf hx none _ _))
    (sub := fun {x _ est _ _} hx ih off nid hc => by
      have h0 := insert_stOf (pcOf := pcOf) (tr := tr) hx (some est.nextSub) nid (est.nextSub + 1)
      -- `gen` declares `x` with its address `off`, the resolver with its id: `pcOf` takes the id to `off` (`hc.1`)
      rw [Option.map_some, hc.1] at h0
      simp only [gen, bind, Except.bind, lookup_stOf, hx, Option.map_none, Option.isSome_none, Bool.false_eq_true, if_false,
        h0, ih _ nid hc.2, genR_length, pure, Except.pure, genR])
    (copies0 := fun _ _ _ => rfl)
    (copiesS := fun h ih off nid hc => by
      simp only [genRepeat, bind, Except.bind, forget_stOf, h off nid hc.1, genR_length, ih _ _ hc.2, pure,
        Except.pure, genR])
    (loopEq := fun hpre heq off nid hc => by
      rw [gen_loop]
      simp only [bind, Except.bind, stOf_variables, hpre off nid hc, heq, beq_self_eq_true, if_true, pure, Except.pure])
    (loopStar := fun hpre hne ih off nid hc => by
      rw [gen_loop]
      simp only [bind, Except.bind, stOf_variables, hpre off nid hc.1, beq_iff_eq, hne, if_false, genR_length, forget_stOf,
        ih _ _ hc.2, pure, Except.pure, genR, List.append_assoc]
      rfl)

/-- for a command body with no global pattern in scope, the one-pass generator (the transcription of
generate.go) emits exactly the code of the two-pass generator for the resolved body -/
theorem gen_eq_genBody (e : Expr) (r : RExpr) (hr : resolveBody [] e = some r) (st : GenState) (hg : st.globals = []) :
    ∃ st', gen e 0 { st with variables := [] } = .ok ((genBody r st.nextId).1, st') := by
  obtain ⟨⟨r', est'⟩, hres, rfl⟩ := Option.map_eq_some_iff.mp hr
  have := gen_of_resolve (resolveN 0) (pcLookup (pcMap r' 0)) st.transforms e {} r' est' hres 0 st.nextId
    (consistent_genBody r' (resolveBody_unique [] e r' hr))
  obtain ⟨vars, globals, tr, nid⟩ := st
  cases hg
  exact ⟨_, this⟩

end Vore

import Vore.Model.RegexParser
/-!
# Vore.Lemmas.RegexTotal — the regex sub-parser never runs out of fuel

`NF sel rest res`: the result `res` is not `.fuel`, and when it is `ok v` the suffix it leaves
(`sel v`) is no longer than `rest`.  Every function of the sub-parser satisfies it for the suffix it
is given, `literal` and `pattern` even for its tail (they read at least one byte), so the recursion
`disj → pattern → literal → groups → disj` always continues on a strictly shorter suffix and
`4·|pattern| + 8` fuel is never used up (`parseRaw_ne_fuel`): this is the termination of
`parse_regexp` on every input.
-/
namespace Vore.RegexParser
open Vore

theorem spanDigits_eq : ∀ l : Bytes, spanDigits l = (l.takeWhile isDigitB, l.dropWhile isDigitB)
  | [] => rfl
  | c :: t => by
    simp only [spanDigits, spanDigits_eq t, List.takeWhile_cons, List.dropWhile_cons]
    split <;> rfl

theorem spanIdent_eq : ∀ l : Bytes, spanIdent l = (l.takeWhile isIdentB, l.dropWhile isIdentB)
  | [] => rfl
  | c :: t => by
    simp only [spanIdent, spanIdent_eq t, List.takeWhile_cons, List.dropWhile_cons]
    split <;> rfl

def NF {α : Type} (sel : α → Bytes) (rest : Bytes) : PR α → Prop
  | .ok v => (sel v).length ≤ rest.length
  | .fuel => False
  | _ => True

section
variable {α β : Type} {sel : α → Bytes} {rest : Bytes}

@[simp] theorem NF.ok {v : α} : NF sel rest (.ok v) ↔ (sel v).length ≤ rest.length := Iff.rfl
@[simp] theorem NF.error {msg : String} : NF sel rest (.error msg) := trivial
@[simp] theorem NF.panic {msg : String} : NF sel rest (.panic msg) := trivial

/-- with this, `simp` walks down the `if … else if …` chains of the parser: what is left to show is
`NF` of the calls at their ends -/
@[simp] theorem NF.ite {c : Prop} [Decidable c] {a b : PR α} :
    NF sel rest (if c then a else b) ↔ (c → NF sel rest a) ∧ (¬ c → NF sel rest b) := by
  split <;> simp [*]

theorem NF.ne_fuel {res : PR α} (h : NF sel rest res) : res ≠ .fuel := by
  intro hf; rw [hf] at h; exact h

theorem NF.bind {sa : α → Bytes} {sb : β → Bytes} {r : Bytes} {res : PR α} {g : α → PR β}
    (h : NF sa r res) (hg : ∀ v, (sa v).length ≤ r.length → NF sb rest (g v)) : NF sb rest (res.bind g) := by
  cases res with
  | ok v => exact hg v h
  | _ => exact h

end

theorem number_nf (rest : Bytes) : NF Prod.snd rest (number rest) := by
  unfold number
  split
  · trivial
  · simp only [spanDigits_eq, NF.ite, NF.ok, NF.error, NF.panic, implies_true, true_and]
    exact fun _ _ _ => (List.dropWhile_suffix _).length_le

theorem lazyTail_nf (mn : Nat) (mx : Int) {r rest : Bytes} (h : r.length ≤ rest.length) :
    NF Prod.snd rest (lazyTail mn mx r) := by
  unfold lazyTail
  split
  · exact Nat.zero_le _
  · simp only [NF.ite, NF.ok]
    exact ⟨fun _ => Nat.le_of_succ_le h, fun _ => h⟩

theorem quantifier_nf (rest : Bytes) : NF Prod.snd rest (quantifier rest) := by
  unfold quantifier
  cases rest with
  | nil => exact Nat.le_refl _
  | cons op t =>
    have hl : ∀ mn mx, NF Prod.snd (op :: t) (lazyTail mn mx t) := fun mn mx => lazyTail_nf mn mx (Nat.le_succ _)
    simp only [NF.ite, NF.ok, hl, implies_true, true_and, Nat.le_refl, and_true]
    -- left: the `{` branch, under `op ≠ 42`, `op ≠ 43`, `op ≠ 63`, `op = 123` (none of them used)
    intro _ _ _ _
    refine (number_nf t).bind fun (frm, r) hr => ?_
    cases r with
    | nil => trivial
    | cons cb r1 =>
      have h1 : r1.length ≤ (op :: t).length := by simp only [List.length_cons] at hr ⊢; omega
      simp only [NF.ite, NF.error, lazyTail_nf _ _ h1, implies_true, and_true]
      intro _
      cases r1 with
      | nil => trivial
      | cons x r2 =>
        simp only [NF.ite, lazyTail_nf _ _ (Nat.le_trans (Nat.le_succ _) h1), implies_true, true_and]
        intro _
        refine (number_nf (x :: r2)).bind fun (to, r3) hr3 => ?_
        cases r3 with
        | nil => trivial
        | cons br r4 =>
          have h4 : r4.length ≤ (op :: t).length := by simp only [List.length_cons] at hr3 h1 ⊢; omega
          simp only [NF.ite, NF.error, lazyTail_nf _ _ h4, implies_true, and_self]

theorem identThenGt_nf (rest : Bytes) (msg : String) : NF Prod.snd rest (identThenGt rest msg) := by
  have hl := (List.dropWhile_suffix (l := rest) isIdentB).length_le
  simp only [identThenGt, spanIdent_eq]
  split
  · trivial
  · next c t heq =>
    simp only [heq, List.length_cons] at hl
    simp only [NF.ite, NF.ok, NF.error, implies_true, and_true]
    omega

theorem escape_nf (rest : Bytes) : NF Prod.snd rest (escape rest) := by
  unfold escape
  cases rest with
  | nil => trivial
  | cons c t =>
    cases t with
    | nil => simp only [NF.ite, NF.ok, NF.panic, List.length_nil, Nat.zero_le, implies_true, and_self]
    | cons d t' =>
      have hk : NF Prod.snd (c :: d :: t')
          ((identThenGt t' "Unexpected charactrer in named capture group identifier.").bind fun (id, r) =>
            PR.ok (Expr.var (latin1 id), r)) :=
        (identThenGt_nf t' _).bind fun _ h => Nat.le_trans h (Nat.le_trans (Nat.le_succ _) (Nat.le_succ _))
      simp only [NF.ite, NF.ok, NF.error, hk, List.length_cons, Nat.le_add_right, Nat.le_add_right_of_le, implies_true,
        and_self]

theorem classItems_nf (rest : Bytes) : NF Prod.snd rest (classItems rest) := by
  fun_induction classItems rest
  -- the arms with a recursive call (`c-]`, where `-` is the next item; the range `c-e`; `c` alone) make it on a suffix of `rest`
  case case7 ih | case8 ih | case9 ih => exact ih.bind fun _ h => Nat.le_trans h (by simp [Nat.le_add_right_of_le])
  all_goals simp

theorem charClass_nf (rest : Bytes) : NF Prod.snd rest (charClass rest) := by
  unfold charClass
  cases rest with
  | nil => trivial
  | cons c t =>
    have hb : (if c = 94 then t else c :: t).length ≤ (c :: t).length := by split <;> simp
    simp only
    generalize (if c = 94 then t else c :: t) = body at hb
    cases body with
    | nil => trivial
    | cons x xs => exact (classItems_nf (x :: xs)).bind fun _ h => Nat.le_trans h hb

abbrev sel3 : Expr × Bytes × Nat → Bytes := fun v => v.2.1

theorem finishAtom_nf (start : Expr) (n : Nat) {r rest : Bytes} (h : r.length ≤ rest.length) :
    NF sel3 rest (finishAtom start r n) :=
  (quantifier_nf r).bind fun _ h' => Nat.le_trans h' h

theorem closeParen_nf (r : Bytes) : NF id r (closeParen r) := by
  unfold closeParen
  cases r with
  | nil => trivial
  | cons x r' => simp

/-- a group's body followed by its `)` -/
theorem NF.group {e : Expr → Expr} {r rest : Bytes} {res : PR (Expr × Bytes × Nat)}
    (h : NF sel3 r res) (hr : r.length ≤ rest.length) :
    NF sel3 rest (res.bind fun (sub, r, n1) => (closeParen r).bind fun r' => .ok (e sub, r', n1)) :=
  h.bind fun v hv => (closeParen_nf v.2.1).bind fun _ h' => Nat.le_trans h' (Nat.le_trans hv hr)

/-- the constants: on the same suffix a function needs one unit more than the one it calls (`disj` 4, `pattern` 3,
`literal` 2, and `groups` 5 for `disj`'s 4); `literal` hands `groups` its tail, and `4·(|rest| - 1) + 5 ≤ 4·|rest| + 1` -/
theorem nf_all : ∀ f : Nat,
    (∀ rest n, 4 * rest.length + 4 ≤ f → NF sel3 rest (disj f rest n)) ∧
    (∀ rest n, 4 * rest.length + 3 ≤ f → NF sel3 rest.tail (pattern f rest n)) ∧
    (∀ rest n, 4 * rest.length + 2 ≤ f → NF sel3 rest.tail (literal f rest n)) ∧
    (∀ rest n, 4 * rest.length + 5 ≤ f → NF sel3 rest (groups f rest n)) := by
  intro f
  induction f with
  | zero => exact ⟨fun _ _ h => by omega, fun _ _ h => by omega, fun _ _ h => by omega, fun _ _ h => by omega⟩
  | succ f ih =>
    obtain ⟨ihd, ihp, ihl, ihg⟩ := ih
    refine ⟨?_, ?_, ?_, ?_⟩
    · intro rest n hf
      cases rest with
      | nil => simp [disj]
      | cons c t =>
        simp only [List.length_cons] at hf
        simp only [disj, NF.ite, NF.ok, Nat.le_refl, implies_true, true_and]
        intro _
        refine (ihp (c :: t) n (by simp only [List.length_cons]; omega)).bind fun (e, r, n1) hr => ?_
        refine (ihd r n1 (by simp only [sel3, List.tail_cons] at hr; omega)).bind fun _ h => ?_
        exact Nat.le_trans h (Nat.le_trans hr (Nat.le_succ _))
    · intro rest n hf
      simp only [pattern]
      refine (ihl rest n (by omega)).bind fun (start, r, n1) hr => ?_
      cases r with
      | nil => exact Nat.zero_le _
      | cons c t =>
        simp only [sel3, List.length_cons, List.length_tail] at hr
        simp only [NF.ite, NF.ok, sel3, List.length_cons, List.length_tail, hr, implies_true, and_true]
        intro _
        exact (ihp t n1 (by omega)).bind fun _ h => Nat.le_trans h (by simp only [List.length_tail]; omega)
    · -- literal: every quantifiable branch ends in `finishAtom` on what a sub-parser left of `t`
      intro rest n hf
      cases rest with
      | nil => simp [literal]
      | cons c t =>
        simp only [List.length_cons] at hf
        have he := (escape_nf t).bind (sb := sel3) (rest := t) fun v h => finishAtom_nf v.1 n h
        have hg := (ihg t n (by omega)).bind (sb := sel3) (rest := t) fun v h => finishAtom_nf v.1 v.2.2 h
        have hc := (charClass_nf t).bind (sb := sel3) (rest := t) fun v h => finishAtom_nf v.1 n h
        simp only [literal, List.tail_cons, NF.ite, NF.ok, he, hg, hc, finishAtom_nf _ n (Nat.le_refl t.length),
          Nat.le_refl, implies_true, and_self]
    · -- groups: the three kinds of group call `disj` on a suffix of `rest`
      intro rest n hf
      cases rest with
      | nil => simp [groups]
      | cons c t =>
        have h1 := (ihd (c :: t) (n + 1) (by omega)).group
          (e := fun sub => .seq (.dec (groupName (n + 1)) sub) .empty) (Nat.le_refl _)
        cases t with
        | nil => rw [groups.eq_def]; simp [h1]
        | cons marker t2 =>
          have h2 := (ihd t2 n (by simp only [List.length_cons] at hf; omega)).group (rest := c :: marker :: t2)
            (e := fun sub => sub) (by simp [Nat.le_add_right_of_le])
          rw [groups.eq_def]
          simp only [NF.ite, NF.panic, NF.error, h1, h2, implies_true, true_and, and_true]
          -- left: the `(?<` branch, under `c = 63`, `marker ≠ 58`, `≠ 61`, `≠ 33`, `marker = 60` (none of them used)
          intro _ _ _ _ _
          cases t2 with
          | nil => trivial
          | cons a t3 =>
            simp only [NF.ite, NF.panic, implies_true, true_and]
            intro _ _
            refine (identThenGt_nf (a :: t3) _).bind fun (id, r0) hr => ?_
            exact (ihd r0 n (by simp only [List.length_cons] at hf hr; omega)).group
              (e := fun sub => .seq (.dec (latin1 id) sub) .empty)
              (Nat.le_trans hr (by simp [Nat.le_add_right_of_le]))

/-- the fuel `parseRaw` supplies is never used up: `parse_regexp` terminates on every input -/
theorem parseRaw_ne_fuel (n0 : Nat) (p : Bytes) : parseRaw n0 p ≠ .fuel :=
  ((nf_all (fuelFor p)).1 p n0 (by unfold fuelFor; omega)).ne_fuel

/-- above the `recover` a panic is a ParseError as well: a tree or a ParseError on every input -/
theorem parseFrom_total (p : Bytes) (n0 : Nat) :
    (∃ e n, parseFrom n0 p = .ok (e, n)) ∨ (∃ msg, parseFrom n0 p = .error msg) := by
  have hnf := parseRaw_ne_fuel n0 p
  unfold parseFrom
  cases h : parseRaw n0 p with
  | ok v => obtain ⟨e, _, n⟩ := v; exact Or.inl ⟨e, n, rfl⟩
  | error m => exact Or.inr ⟨m, rfl⟩
  | panic w => exact Or.inr ⟨_, rfl⟩
  | fuel => exact absurd h hnf

end Vore.RegexParser

import Vore.Model.Sched
/-!
# Vore.Lemmas.Sched — invariants of the interleaving model (for `Vore/Props/C19.lean`)

One induction over the schedule, for an arbitrary family of threads, carries two invariants:

* `ResInv`  — every thread's accumulator is that of its own sequential run up to its program
              counter, and the store agrees with that run on every location the thread may rely
              on (`Sees`: never written, confined to it, or written by it under a held mutex);
* `RaceInv` — the trace is race free, by the classical lock argument (`HB.through_lock`); the
              other fields say where the unlock and the last lock of that argument are.
-/
namespace Vore.Sched

@[simp] theorem upd_same {α β} [DecidableEq α] {f : α → β} {x : α} {v : β} : upd f x v x = v := by
  simp [upd]

theorem upd_other {α β} [DecidableEq α] {f : α → β} {x y : α} {v : β} (h : y ≠ x) : upd f x v y = f y := by
  simp [upd, h]

theorem getElem?_snoc {α} {c : List α} {e x : α} {i : Nat} :
    (c ++ [e])[i]? = some x ↔ c[i]? = some x ∨ (i = c.length ∧ x = e) := by
  rw [List.getElem?_append]
  split
  · next h => exact ⟨Or.inl, fun h' => h'.elim id (by omega)⟩
  · next h =>
    rw [List.getElem?_eq_none (Nat.le_of_not_lt h), List.getElem?_singleton]
    by_cases hi : i = c.length
    · simp [hi, eq_comm]
    · rw [if_neg (by omega)]
      simp [hi]

theorem snoc_left {α} {c : List α} {i : Nat} {x e : α} (h : c[i]? = some x) : (c ++ [e])[i]? = some x :=
  (getElem?_snoc).2 (Or.inl h)

theorem lt_of_getElem?_some {α} {c : List α} {i : Nat} {x : α} (h : c[i]? = some x) : i < c.length :=
  (List.getElem?_eq_some_iff.mp h).1

namespace Action

theorem storeAfter_nowrite {a : Action} {acc : Val} {st : Loc → Val} {g : Loc}
    (h : a.target = some g → a.isWrite = false) : a.storeAfter acc st g = st g := by
  cases a with
  | write g' _ | rmw g' _ => exact upd_other fun hg => nomatch h (congrArg some hg.symm)
  | _ => rfl

theorem storeAfter_other {a : Action} {acc : Val} {st : Loc → Val} {g : Loc}
    (h : a.target ≠ some g) : a.storeAfter acc st g = st g :=
  storeAfter_nowrite fun h' => absurd h' h

theorem storeAfter_congr {a : Action} {acc : Val} {st st' : Loc → Val} {g : Loc}
    (h : st g = st' g) : a.storeAfter acc st g = a.storeAfter acc st' g := by
  cases a with
  | write g' _ | rmw g' _ => simp only [storeAfter, upd]; split <;> simp_all
  | _ => simpa [storeAfter] using h

theorem accAfter_congr {a : Action} {acc : Val} {st st' : Loc → Val}
    (h : ∀ g, a.target = some g → a.isWrite = false → st g = st' g) :
    a.accAfter acc st = a.accAfter acc st' := by
  cases a with
  | read g k => simp [accAfter, h g rfl rfl]
  | _ => rfl

theorem ev_loc? (a : Action) : a.ev.loc? = a.target := by
  cases a <;> rfl

theorem ev_wr {a : Action} {g : Loc} (h : a.ev = .wr g) : a.target = some g ∧ a.isWrite = true := by
  cases a with
  | write _ _ | rmw _ _ => cases h; exact ⟨rfl, rfl⟩
  | _ => cases h

theorem ev_ne_rel_of_target {a : Action} {g : Loc} (h : a.target = some g) (m : Mutex) : a.ev ≠ .rel m := by
  cases a <;> simp [target] at h <;> simp [ev]

theorem eq_lock {a : Action} {m : Mutex} (h : a.ev = .acq m) : a = .lock m := by
  cases a <;> simp [ev] at h; rw [h]

theorem eq_unlock {a : Action} {m : Mutex} (h : a.ev = .rel m) : a = .unlock m := by
  cases a <;> simp [ev] at h; rw [h]

theorem held_fresh_after {a : Action} {g : Loc} {m : Mutex} {hd fr : Bool} (h1 : a.heldAfter m hd = true)
    (h2 : a.freshAfter g m fr = true) : (hd = true ∧ fr = true) ∨ ∃ e, a = .write g e := by
  cases a with
  | lock m' | unlock m' =>
    simp only [heldAfter, freshAfter] at h1 h2
    split at h2
    · cases h2
    · rw [if_neg (by assumption)] at h1; exact .inl ⟨h1, h2⟩
  | write g' e =>
    simp only [freshAfter] at h2
    split at h2
    · next hg => exact .inr ⟨e, by rw [hg]⟩
    · exact .inl ⟨h1, h2⟩
  | _ => exact .inl ⟨h1, h2⟩

end Action

theorem seqAt_succ {as : List Action} {n : Nat} {a : Action} (s0 : SeqState) (h : as[n]? = some a) :
    seqAt as s0 (n + 1) = seqStep (seqAt as s0 n) a := by
  simp [seqAt, h]

theorem heldAt_succ {as : List Action} {n : Nat} {a : Action} (m : Mutex) (h : as[n]? = some a) :
    heldAt as m (n + 1) = a.heldAfter m (heldAt as m n) := by
  simp [heldAt, h]

theorem freshAt_succ {as : List Action} {n : Nat} {a : Action} (g : Loc) (m : Mutex) (h : as[n]? = some a) :
    freshAt as g m (n + 1) = a.freshAfter g m (freshAt as g m n) := by
  simp [freshAt, h]

theorem seqAt_eq_take (as : List Action) (s0 : SeqState) (n : Nat) :
    seqAt as s0 n = seqRun (as.take n) s0 := by
  induction n with
  | zero => simp [seqAt, seqRun]
  | succ n ih =>
    rw [List.take_add_one]
    cases h : as[n]? with
    | none => simp [seqAt, h, ih]
    | some a => simp [seqAt, h, ih, seqRun, List.foldl_append]

theorem seqAt_length (as : List Action) (s0 : SeqState) : seqAt as s0 as.length = seqRun as s0 := by
  rw [seqAt_eq_take, List.take_length]

theorem exec_induction (P : Tid → List Action) (Inv : State → Prop)
    (hstep : ∀ σ t a, Inv σ → (P t)[σ.pc t]? = some a → a.enabled σ.holder = true → Inv (fire σ t a))
    (σ : State) (h0 : Inv σ) (s : List Tid) : Inv (exec P σ s) := by
  induction s generalizing σ with
  | nil => exact h0
  | cons t _ ih =>
    refine ih _ ?_
    unfold step
    split
    · exact h0
    · next a ha =>
      split
      · next he => exact hstep σ t a h0 ha he
      · exact h0

theorem holderAfter_other {a : Action} {t : Tid} {h : Mutex → Option Tid} {m : Mutex}
    (h1 : a.ev ≠ .acq m) (h2 : a.ev ≠ .rel m) : a.holderAfter t h m = h m := by
  cases a with
  | lock m' => exact upd_other fun hm => h1 (by rw [hm]; rfl)
  | unlock m' => exact upd_other fun hm => h2 (by rw [hm]; rfl)
  | _ => rfl

theorem heldAfter_other {a : Action} {hd : Bool} {m : Mutex}
    (h1 : a.ev ≠ .acq m) (h2 : a.ev ≠ .rel m) : a.heldAfter m hd = hd := by
  cases a with
  | lock m' => exact if_neg fun hm => h1 (by rw [hm]; rfl)
  | unlock m' => exact if_neg fun hm => h2 (by rw [hm]; rfl)
  | _ => rfl

/-- a thread that holds `m` by its own program is the holder -/
def Held (P : Tid → List Action) (σ : State) : Prop :=
  ∀ (t : Tid) (m : Mutex), heldAt (P t) m (σ.pc t) = true → σ.holder m = some t

theorem free_of_acq {a : Action} {h : Mutex → Option Tid} {m : Mutex} (he : a.enabled h = true)
    (hm : a.ev = .acq m) : h m = none := by
  cases Action.eq_lock hm
  simpa [Action.enabled] using he

/-- a held mutex stays with its holder until the holder unlocks it -/
theorem holder_fire {P : Tid → List Action} (hwl : WellLocked P) {σ : State} {t : Tid} {a : Action}
    (hheld : Held P σ) (ha : (P t)[σ.pc t]? = some a) (he : a.enabled σ.holder = true) {m : Mutex} {u : Tid}
    (hh : σ.holder m = some u) : (fire σ t a).holder m = some u ∨ (a.ev = .rel m ∧ u = t) := by
  by_cases hrel : a.ev = .rel m
  · cases Action.eq_unlock hrel
    exact .inr ⟨rfl, Option.some.inj (hh.symm.trans (hheld t _ (hwl t _ _ ha)))⟩
  · refine .inl ((holderAfter_other (fun hacq => ?_) hrel).trans hh)
    cases hh.symm.trans (free_of_acq he hacq)

theorem held_fire {P : Tid → List Action} (hwl : WellLocked P) {σ : State} {t : Tid} {a : Action}
    (hheld : Held P σ) (ha : (P t)[σ.pc t]? = some a) (he : a.enabled σ.holder = true) :
    Held P (fire σ t a) := by
  intro t' m h
  simp only [fire] at h ⊢
  by_cases ht : t' = t
  · subst ht
    rw [upd_same, heldAt_succ m ha] at h
    by_cases hacq : a.ev = .acq m
    · cases Action.eq_lock hacq
      exact upd_same
    · by_cases hrel : a.ev = .rel m
      · cases Action.eq_unlock hrel
        simp [Action.heldAfter] at h
      · rw [heldAfter_other hacq hrel] at h
        rw [holderAfter_other hacq hrel]
        exact hheld t' m h
  · rw [upd_other ht] at h
    exact (holder_fire hwl hheld ha he (hheld t' m h)).resolve_right fun h' => ht h'.2

/-! ## results: every thread computes what it computes alone

The invariant compares the concurrent state with each thread's *own* sequential state, its run alone
up to its program counter.  An action of `t` moves `t`'s own state by one sequential step and leaves
every other thread's own state where it is; what another thread sees of the store is not written. -/

section
variable (P : Tid → List Action) (acc0 : Tid → Val) (store0 : Loc → Val)

def own (σ : State) (t : Tid) : SeqState := seqAt (P t) ⟨acc0 t, store0⟩ (σ.pc t)

/-- The locations whose value thread `t` may rely on: never written; confined to `t`; or guarded by a
mutex `t` holds, and written by `t` since it took it. -/
def Sees (σ : State) (t : Tid) (g : Loc) : Prop :=
  ¬ Written P g ∨ ConfinedTo P g t ∨
    ∃ m, Guarded P g m ∧ heldAt (P t) m (σ.pc t) = true ∧ freshAt (P t) g m (σ.pc t) = true

structure ResInv (σ : State) : Prop where
  acc : ∀ t, σ.acc t = (own P acc0 store0 σ t).acc
  store : ∀ t g, Sees P σ t g → σ.store g = (own P acc0 store0 σ t).store g
  held : Held P σ

variable {P acc0 store0} {σ : State} {t : Tid} {a : Action}

theorem fire_pc : (fire σ t a).pc = upd σ.pc t (σ.pc t + 1) := rfl
theorem fire_acc : (fire σ t a).acc = upd σ.acc t (a.accAfter (σ.acc t) σ.store) := rfl
theorem fire_store : (fire σ t a).store = a.storeAfter (σ.acc t) σ.store := rfl

theorem own_fire (ha : (P t)[σ.pc t]? = some a) :
    own P acc0 store0 (fire σ t a) t = seqStep (own P acc0 store0 σ t) a := by
  rw [own, fire_pc, upd_same, seqAt_succ _ ha]; rfl

theorem own_fire_other {t' : Tid} (ht : t' ≠ t) : own P acc0 store0 (fire σ t a) t' = own P acc0 store0 σ t' := by
  rw [own, fire_pc, upd_other ht]; rfl

theorem sees_of_read (hdisc : ∀ g, Written P g → Confined P g ∨ LockProtected P g)
    (ha : (P t)[σ.pc t]? = some a) {g : Loc} (hg : a.target = some g) (hw : a.isWrite = false) :
    Sees P σ t g := by
  by_cases hwr : Written P g
  · rcases hdisc g hwr with ⟨o, ho⟩ | ⟨m, hm, hb | hb⟩
    · exact .inr (.inl (ho t _ a ha hg ▸ ho))
    · have := hb t _ a ha hg
      cases a <;> simp [Action.isRmw, Action.isWrite] at this hw
    · exact .inr (.inr ⟨m, hm, hm t _ a ha hg, hb t _ a ha hg hw⟩)
  · exact .inl hwr

theorem frame (hheld : Held P σ) (ha : (P t)[σ.pc t]? = some a) {t' : Tid} (ht : t' ≠ t)
    {g : Loc} (hs : Sees P σ t' g) (hg : a.target = some g) : a.isWrite = false := by
  rcases hs with hs | hs | ⟨m, hm, hh, _⟩
  · exact Bool.eq_false_iff.2 fun hw => hs ⟨t, _, a, ha, hg, hw⟩
  · exact absurd (hs t _ a ha hg).symm ht
  · have := hheld t m (hm t _ a ha hg)
    rw [hheld t' m hh] at this
    exact absurd (Option.some.inj this) ht

theorem resInv_init : ResInv P acc0 store0 (init acc0 store0) :=
  ⟨fun _ => rfl, fun _ _ _ => rfl, fun t m h => by simp [init, heldAt] at h⟩

theorem resInv_fire (hwl : WellLocked P) (hdisc : ∀ g, Written P g → Confined P g ∨ LockProtected P g)
    (inv : ResInv P acc0 store0 σ) (ha : (P t)[σ.pc t]? = some a) (he : a.enabled σ.holder = true) :
    ResInv P acc0 store0 (fire σ t a) := by
  refine ⟨fun t' => ?_, fun t' g hs => ?_, held_fire hwl inv.held ha he⟩
  · by_cases ht : t' = t
    · rw [ht, own_fire ha, fire_acc, upd_same, inv.acc t]
      exact Action.accAfter_congr fun g hg hw => inv.store t g (sees_of_read hdisc ha hg hw)
    · rw [own_fire_other ht, fire_acc, upd_other ht]
      exact inv.acc t'
  · by_cases ht : t' = t
    · subst ht
      rw [own_fire ha, fire_store, inv.acc t']
      -- `t'` saw `g` before, or this is its write of `g` under the mutex
      have hprev : Sees P σ t' g ∨ ∃ e, a = .write g e := by
        rcases hs with hs | hs | ⟨m, hm, hh, hf⟩
        · exact .inl (.inl hs)
        · exact .inl (.inr (.inl hs))
        · rw [fire_pc, upd_same] at hh hf
          rw [heldAt_succ m ha] at hh
          rw [freshAt_succ g m ha] at hf
          exact (Action.held_fresh_after hh hf).imp (fun h => .inr (.inr ⟨m, hm, h⟩)) id
      rcases hprev with hprev | ⟨e, rfl⟩
      · exact Action.storeAfter_congr (inv.store t' g hprev)
      · simp [seqStep, Action.storeAfter]
    · have hs' : Sees P σ t' g := by
        simpa only [Sees, fire_pc, upd_other ht] using hs
      rw [own_fire_other ht, fire_store, Action.storeAfter_nowrite (frame inv.held ha ht hs')]
      exact inv.store t' g hs'

end

theorem HB.snoc {c : List Event} {i j : Nat} (e : Event) (h : HB c i j) : HB (c ++ [e]) i j := by
  induction h with
  | po hij hi hj ht => exact HB.po hij (snoc_left hi) (snoc_left hj) ht
  | sw hij hi hj => exact HB.sw hij (snoc_left hi) (snoc_left hj)
  | trans _ _ ih1 ih2 => exact HB.trans ih1 ih2

theorem RaceFree.snoc {c : List Event} {e' : Event} (h : RaceFree c)
    (hnew : ∀ i e, c[i]? = some e → Conflict e e' → HB (c ++ [e']) i c.length) : RaceFree (c ++ [e']) := by
  intro i j e e'' hij hi hj hconf
  have hjl : j < c.length + 1 := by simpa using lt_of_getElem?_some hj
  have hi' : c[i]? = some e := ((getElem?_snoc).1 hi).resolve_right fun h => by omega
  rcases (getElem?_snoc).1 hj with hj' | ⟨rfl, rfl⟩
  · exact (h i j e e'' hij hi' hj' hconf).snoc _
  · exact hnew i e hi' hconf

/-- without synchronisation actions, happens-before is program order -/
theorem HB_same_thread {c : List Event} (hns : ∀ e ∈ c, ∀ m, e.kind ≠ .rel m)
    {i j : Nat} (h : HB c i j) : c[i]?.map (·.tid) = c[j]?.map (·.tid) := by
  induction h with
  | po _ hi hj ht => rw [hi, hj, Option.map_some, Option.map_some, ht]
  | sw _ hi _ => exact absurd rfl (hns _ (List.mem_of_getElem? hi) _)
  | trans _ _ ih1 ih2 => exact ih1.trans ih2

/-- The lock argument.  An access at `i` whose thread has unlocked `m` since (at `r`) happens before
whatever a thread that locked `m` after that (at `q`) does next: program order to `r`, unlock before
lock to `q`, program order to the end. -/
theorem HB.through_lock {c : List Event} {i r q : Nat} {e : Event} {t : Tid} {m : Mutex} (k : EvKind)
    (hi : c[i]? = some e) (hir : i < r) (hr : c[r]? = some ⟨e.tid, .rel m⟩) (hrq : r < q)
    (hq : c[q]? = some ⟨t, .acq m⟩) : HB (c ++ [⟨t, k⟩]) i c.length :=
  HB.trans (HB.po hir (snoc_left hi) (snoc_left hr) rfl)
    (HB.trans (HB.sw hrq (snoc_left hr) (snoc_left hq))
      (HB.po (lt_of_getElem?_some hq) (snoc_left hq) List.getElem?_concat_length rfl))

structure RaceInv (P : Tid → List Action) (σ : State) : Prop where
  /-- every event is an action of its thread -/
  src : ∀ (i : Nat) (e : Event), σ.trace[i]? = some e → ∃ (n : Nat) (a : Action), (P e.tid)[n]? = some a ∧ a.ev = e.kind
  /-- the holder of `m` has locked it after every unlock of `m` -/
  relAcq : ∀ (m : Mutex) (t : Tid), σ.holder m = some t → ∀ (r : Nat) (u : Tid), σ.trace[r]? = some ⟨u, .rel m⟩ →
    ∃ q, r < q ∧ σ.trace[q]? = some ⟨t, .acq m⟩
  /-- an access under `m`: its thread still holds `m`, or has unlocked it since -/
  prot : ∀ (g : Loc) (m : Mutex), Guarded P g m → ∀ (i : Nat) (e : Event), σ.trace[i]? = some e → e.kind.loc? = some g →
    σ.holder m = some e.tid ∨ ∃ r, i < r ∧ σ.trace[r]? = some ⟨e.tid, .rel m⟩
  rf : RaceFree σ.trace

theorem raceInv_init {P : Tid → List Action} {acc0 : Tid → Val} {store0 : Loc → Val} :
    RaceInv P (init acc0 store0) := by
  refine ⟨?_, ?_, ?_, ?_⟩
  · intro i e h; simp [init] at h
  · intro m t h; simp [init] at h
  · intro g m _ i e h; simp [init] at h
  · intro i j e e' _ h; simp [init] at h

theorem raceInv_fire {P : Tid → List Action} (hwl : WellLocked P)
    (hdisc : ∀ g, Written P g → Confined P g ∨ LockProtected P g)
    {σ : State} {t : Tid} {a : Action} (hheld : Held P σ) (inv : RaceInv P σ)
    (ha : (P t)[σ.pc t]? = some a) (he : a.enabled σ.holder = true) : RaceInv P (fire σ t a) := by
  constructor
  case src =>
    intro i e h
    rcases (getElem?_snoc).1 h with h | ⟨_, rfl⟩
    · exact inv.src i e h
    · exact ⟨σ.pc t, a, ha, rfl⟩
  case relAcq =>
    intro m t' hh r u hr
    simp only [fire] at hh hr ⊢
    by_cases hrel : a.ev = .rel m
    · cases Action.eq_unlock hrel
      simp [Action.holderAfter] at hh
    · have hr' : σ.trace[r]? = some ⟨u, .rel m⟩ :=
        ((getElem?_snoc).1 hr).resolve_right fun h => hrel (congrArg Event.kind h.2).symm
      by_cases hacq : a.ev = .acq m
      · cases Action.eq_lock hacq
        cases Option.some.inj (upd_same.symm.trans hh)
        exact ⟨_, lt_of_getElem?_some hr', List.getElem?_concat_length⟩
      · rw [holderAfter_other hacq hrel] at hh
        obtain ⟨q, hrq, hq⟩ := inv.relAcq m t' hh r u hr'
        exact ⟨q, hrq, snoc_left hq⟩
  case prot =>
    intro g m hm i e hi hg
    simp only [fire] at hi ⊢
    rcases (getElem?_snoc).1 hi with hi' | ⟨_, rfl⟩
    · rcases inv.prot g m hm i e hi' hg with hh | ⟨r, hir, hr⟩
      · rcases holder_fire hwl hheld ha he hh with hh' | ⟨hrel, hte⟩
        · exact .inl hh'
        · exact .inr ⟨_, lt_of_getElem?_some hi', by rw [List.getElem?_concat_length, hte, hrel]⟩
      · exact .inr ⟨r, hir, snoc_left hr⟩
    · have hat : a.target = some g := by rw [← Action.ev_loc?]; exact hg
      exact .inl ((holder_fire hwl hheld ha he (hheld t m (hm t _ a ha hat))).resolve_right
        fun h => Action.ev_ne_rel_of_target hat m h.1)
  case rf =>
    -- a conflicting earlier access is under the mutex the new one holds
    refine inv.rf.snoc fun i e hi ⟨hne, g, hg, hg', hw⟩ => ?_
    obtain ⟨n, b, hb, hbe⟩ := inv.src i e hi
    have hbt : b.target = some g := by rw [← Action.ev_loc?, hbe]; exact hg
    have hat : a.target = some g := by rw [← Action.ev_loc?]; exact hg'
    have hwr : Written P g := by
      cases hw with
      | inl h => exact ⟨e.tid, n, b, hb, hbt, (Action.ev_wr (hbe.trans h)).2⟩
      | inr h => exact ⟨t, _, a, ha, hat, (Action.ev_wr h).2⟩
    rcases hdisc g hwr with ⟨o, ho⟩ | ⟨m, hm, _⟩
    · exact absurd ((ho e.tid n b hb hbt).trans (ho t _ a ha hat).symm) hne
    · have hhold : σ.holder m = some t := hheld t m (hm t _ a ha hat)
      rcases inv.prot g m hm i e hi hg with h | ⟨r, hir, hr⟩
      · exact absurd (Option.some.inj (h.symm.trans hhold)) hne
      · obtain ⟨q, hrq, hq⟩ := inv.relAcq m t hhold r _ hr
        exact HB.through_lock _ hi hir hr hrq hq

theorem inv_exec (P : Tid → List Action) (acc0 : Tid → Val) (store0 : Loc → Val) (hwl : WellLocked P)
    (hdisc : ∀ g, Written P g → Confined P g ∨ LockProtected P g) (s : List Tid) :
    ResInv P acc0 store0 (exec P (init acc0 store0) s) ∧ RaceInv P (exec P (init acc0 store0) s) :=
  exec_induction P (fun σ => ResInv P acc0 store0 σ ∧ RaceInv P σ)
    (fun _ _ _ inv ha he =>
      ⟨resInv_fire hwl hdisc inv.1 ha he, raceInv_fire hwl hdisc inv.1.held inv.2 ha he⟩)
    _ ⟨resInv_init, raceInv_init⟩ s

end Vore.Sched

import Vore.Lemmas.ParserBasics
/-!
# Vore.Lemmas.ParserPratt — the Pratt parser is total on every token list; the expression-token
collection (`getProcessExpressionTokens`) is `takeWhile`/`dropWhile` on the stripped tokens
-/
namespace Vore.Parser
open Vore Vore.Grammar

def PGood (l : List STok) (lo : Nat) : PRes → Prop
  | .ok _ nx => lo ≤ nx ∧ nx ≤ l.length
  | .error => True
  | .panic => False
  | .fuel => False

variable {l : List STok} {lo : Nat}

theorem PGood.mono {lo' : Nat} {r : PRes} (h : PGood l lo r) (hle : lo' ≤ lo) : PGood l lo' r :=
  match r, h with
  | .ok _ _, ⟨h1, h2⟩ => ⟨Nat.le_trans hle h1, h2⟩
  | .error, _ => trivial

theorem pgood_ite {c : Prop} [Decidable c] {a b : PRes} (ha : PGood l lo a) (hb : PGood l lo b) :
    PGood l lo (if c then a else b) := by
  split
  · exact ha
  · exact hb

/-- `tokens[i]` behind its bounds check -/
theorem pgood_get {i : Nat} {x : PRes} {K : STok → PRes} (hx : PGood l lo x)
    (hk : ∀ t, i < l.length → PGood l lo (K t)) :
    PGood l lo (if l.length ≤ i then x else match l[i]? with | none => .panic | some t => K t) := by
  split
  · exact hx
  · have hi : i < l.length := by omega
    rw [List.getElem?_eq_getElem hi]
    exact hk _ hi

theorem pgood_bind {a : Nat} {r : PRes} {K : PExpr → Nat → PRes} :
    PGood l a r → (∀ e nx, a ≤ nx → nx ≤ l.length → PGood l lo (K e nx)) →
    PGood l lo (match r with | .ok e nx => K e nx | r => r) :=
  fun h hk => match r, h with
  | .ok e nx, ⟨h1, h2⟩ => hk e nx h1 h2
  | .error, _ => trivial

/-- more fuel than remaining tokens (`pratt` starts with over twice that): a call one unit poorer and at least one token
further on has what it needs -/
theorem pfuel {L f i j : Nat} (hf : L < f + 1 + i) (hij : i + 1 ≤ j) : L < f + j := by omega

theorem pratt_good (l : List STok) : ∀ f,
    (∀ idx minP, idx ≤ l.length → l.length < f + idx → PGood l (idx + 1) (prattExpr l f idx minP)) ∧
    (∀ lhs ti minP, ti ≤ l.length → l.length < f + ti → PGood l ti (prattLoop l f lhs ti minP))
  | 0 => ⟨fun _ _ _ h => by omega, fun _ _ _ _ h => by omega⟩
  | f + 1 => by
    obtain ⟨ihE, ihL⟩ := pratt_good l f
    constructor
    · intro idx minP _ hf
      rw [prattExpr]
      refine pgood_get trivial fun t hlt => ?_
      have hL : ∀ lhs, PGood l (idx + 1) (prattLoop l f lhs (idx + 1) minP) :=
        fun lhs => ihL lhs (idx + 1) minP hlt (pfuel hf (Nat.le_refl _))
      refine pgood_ite (hL _) <| pgood_ite (hL _) <| pgood_ite (hL _) <| pgood_ite (hL _) <| pgood_ite (hL _) <|
        pgood_ite ?_ <| pgood_ite ?_ trivial
      · refine pgood_bind (ihE (idx + 1) 0 hlt (pfuel hf (Nat.le_refl _))) fun sub nx h1 _ => ?_
        refine pgood_get trivial fun t2 hlt2 => pgood_ite ?_ trivial
        have hi : idx + 1 ≤ nx + 1 := Nat.le_succ_of_le (Nat.le_of_succ_le h1)
        exact (ihL sub (nx + 1) minP hlt2 (pfuel hf hi)).mono hi
      · refine pgood_bind (ihE (idx + 1) _ hlt (pfuel hf (Nat.le_refl _))) fun rhs nx h1 h2 => ?_
        have hi : idx + 1 ≤ nx := Nat.le_of_succ_le h1
        exact (ihL _ nx minP h2 (pfuel hf hi)).mono hi
    · intro lhs ti minP hti hf
      rw [prattLoop]
      refine pgood_get ⟨Nat.le_refl _, hti⟩ fun t hlt => ?_
      refine pgood_ite ⟨Nat.le_refl _, hti⟩ <| pgood_ite trivial <| pgood_ite ⟨Nat.le_refl _, hti⟩ ?_
      refine pgood_bind (ihE (ti + 1) _ hlt (pfuel hf (Nat.le_refl _))) fun rhs nx h1 h2 => ?_
      have hi : ti + 1 ≤ nx := Nat.le_of_succ_le h1
      exact (ihL _ nx minP h2 (pfuel hf hi)).mono (Nat.le_of_succ_le hi)

/-- `parse_expr_pratt(exprTokens, 0, 0)` never indexes out of range and terminates, on every token list -/
theorem pratt_total (l : List STok) : pratt l ≠ .panic ∧ pratt l ≠ .fuel := by
  have := (pratt_good l (2 * l.length + 4)).1 0 0 (Nat.zero_le _) (by omega)
  unfold pratt
  cases hr : prattExpr l (2 * l.length + 4) 0 0 <;> simp_all [PGood]

theorem exprEnd_not_ignorable {k : Tok} (h : isProcessExprEnd k = true) : ignorable k = false := by
  cases hi : ignorable k with
  | false => rfl
  | true =>
    simp [ignorable] at hi
    rcases hi with rfl | rfl <;> simp [isProcessExprEnd] at h

abbrev notEnd (t : STok) : Bool := !isProcessExprEnd t.kind

/-- one round of the loop of `getProcessExpressionTokens` -/
theorem collect_step {ts : List Token} {i : Nat} {t : Token} (ht : tk ts i = some t) :
    getProcessExpressionTokens ts i =
      if isProcessExprEnd t.kind then ([], i)
      else if ignorable t.kind then getProcessExpressionTokens ts (i + 1)
      else (Token.sig t :: (getProcessExpressionTokens ts (i + 1)).1, (getProcessExpressionTokens ts (i + 1)).2) := by
  rw [getProcessExpressionTokens, drop_cons_of_tk ht, collectL]; rfl

/-- `getProcessExpressionTokens` from index `i`: the significant tokens as long as none ends an expression, and an
index inside the list from which the rest goes on -/
theorem collect_spec {ts : List Token} (h : EndsEof ts) {i : Nat} (hi : i < ts.length) :
    (getProcessExpressionTokens ts i).1 = (strip (ts.drop i)).takeWhile notEnd ∧
    i ≤ (getProcessExpressionTokens ts i).2 ∧ (getProcessExpressionTokens ts i).2 < ts.length ∧
    strip (ts.drop (getProcessExpressionTokens ts i).2) = (strip (ts.drop i)).dropWhile notEnd := by
  induction hn : ts.length - i generalizing i with
  | zero => omega
  | succ n ih =>
    obtain ⟨t, ht⟩ := tk_of_lt hi
    rw [collect_step ht]
    by_cases he : isProcessExprEnd t.kind = true
    · rw [if_pos he, strip_drop_cons ht (exprEnd_not_ignorable he)]
      simp [he, hi]
    · have hne : t.kind ≠ .eof := fun hk => he (by simp [hk, isProcessExprEnd])
      obtain ⟨h1, h2, h3, h4⟩ := ih (h.succ_lt ht hne) (by omega)
      rw [if_neg he]
      by_cases hs : ignorable t.kind = true
      · rw [if_pos hs, strip_drop_ign ht hs]
        exact ⟨h1, by omega, h3, h4⟩
      · rw [if_neg hs, strip_drop_cons ht (by simpa using hs)]
        exact ⟨by simp [he, h1], by omega, h3, by simp [he, h4]⟩

theorem parseProcessExpression_sim {ts : List Token} (h : EndsEof ts) {lo i : Nat} (hb : lo ≤ i ∧ i < ts.length) :
    Sim ts lo (parseProcessExpression ts i) (pProcessExpression (strip (ts.drop i))) := by
  obtain ⟨h1, h2, h3, h4⟩ := collect_spec h hb.2
  obtain ⟨t, h5⟩ := tk_of_lt h3
  unfold parseProcessExpression pProcessExpression
  simp only
  rw [← h1]
  refine sim_ite (fun _ => ?_) fun _ => ?_
  · simp [withTok, h5, Sim]
  · have ht := pratt_total (getProcessExpressionTokens ts i).1
    cases hp : pratt (getProcessExpressionTokens ts i).1 with
    | ok e nx => simp only; exact sim_ok h4.symm ⟨Nat.le_trans hb.1 h2, h3⟩
    | error => exact sim_err
    | panic => exact absurd hp ht.1
    | fuel => exact absurd hp ht.2

end Vore.Parser

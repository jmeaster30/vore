import Vore.Lemmas.Json
import Vore.Lemmas.Replace
import Vore.Lemmas.Scan
/-!
# Vore.Lemmas.JsonWF — every variable map the VM builds is a finite map (C17)

`VMap.WF`: no key occurs twice, at any depth.  It holds of the environment and of every
named-loop map of the running state and of every saved state, it is preserved by every VM
instruction (maps are only ever extended with `VMap.put`), hence it holds of the variables of
every match `findMatches` / `runProgram` return — for every instruction list, text and fuel.
With `C17_wellformed` this makes every object of the JSON tree a finite map.
-/
namespace Vore

structure WInv (c : Core) : Prop where
  env_wf : c.env.WF
  loops_wf : ∀ l ∈ c.loops, l.vars.WF

theorem WInv.consume {c} (h : WInv c) (text : Bytes) (n : Nat) : WInv (c.consume text n) :=
  ⟨h.env_wf, h.loops_wf⟩

theorem WInv.preserved (text : Bytes) : Preserved text WInv (fun _ m => m.WF) (fun _ v => v.WF) where
  env h := h.env_wf
  loops h := h.loops_wf
  frame _ := fun _ henv hloops => ⟨henv, hloops⟩
  consume h n := h.consume text n
  pushVar h _ := ⟨h.env_wf, h.loops_wf⟩
  nil _ := VMap.wf_nil
  put := VMap.wf_put
  get := VMap.wf_get
  map := Iff.rfl
  drop _ _ := trivial

def VarsWF (ms : List Match) : Prop := ∀ m ∈ ms, m.vars.WF

theorem findMatches_wf (pf vf : Nat) (prog : List Instr) (amt : Amount) (text : Bytes) (ms : List Match)
    (h : findMatches pf vf prog amt text = some (.ok ms)) : VarsWF ms := by
  rw [findMatches_eq] at h
  split at h
  · cases h; exact fun _ hm => nomatch hm
  · refine scan_invariant (J := fun acc _ _ _ _ => VarsWF acc) (R := VarsWF) ?_ (fun hJ _ => hJ) (fun hJ => hJ)
      (acc := []) (fun _ hm => nomatch hm) h
    intro acc mn pos line col c hacc hrun _
    have hc : WInv c := run_preserves (WInv.preserved text) pf prog vf (initState pos line col) c
      ⟨⟨VMap.wf_nil, fun _ hl => nomatch hl⟩, fun _ hc => nomatch hc⟩ hrun
    split
    · exact fun m hm =>
        List.forall_mem_append.mpr ⟨hacc, List.forall_mem_singleton.mpr hc.env_wf⟩ m (mem_of_mem_limitLast hm)
    · exact hacc

/-- `VarsWF` does not look at the replacement -/
theorem varsWF_erase (l : List Match) : VarsWF (l.map eraseRepl) ↔ VarsWF l := by
  simp only [VarsWF, List.forall_mem_map]
  exact Iff.rfl

theorem runCmd_wf {pf vf : Nat} {fn text : Bytes} {c : BCmd} {ms : List Match}
    (h : runCmd pf vf fn text c = some (.ok ms)) : VarsWF ms := by
  rcases runCmd_found h with rfl | ⟨amt, code, found, hf, e⟩
  · exact fun _ hm => nomatch hm
  · rw [← varsWF_erase, e, varsWF_erase]
    exact findMatches_wf pf vf code amt text found hf

theorem runProgram_wf (pf vf : Nat) (fn text : Bytes) :
    ∀ (cs : List BCmd) (ms : List Match), runProgram pf vf fn text cs = some (.ok ms) → VarsWF ms := by
  intro cs
  induction cs with
  | nil => intro ms h; cases h; exact fun _ hm => nomatch hm
  | cons c cs ih =>
    intro ms h
    unfold runProgram at h
    split at h
    · next found hf =>
      split at h
      · next rest hr =>
        cases h
        exact List.forall_mem_append.mpr ⟨runCmd_wf hf, ih rest hr⟩
      all_goals cases h
    all_goals cases h

end Vore

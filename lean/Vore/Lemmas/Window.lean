import Vore.Spec.Window
import Vore.Lemmas.Scan
import Vore.Lemmas.Ds
/-!
# Vore.Lemmas.Window — the scan under any amount tuple returns the window of the scan under `all` (C04)

The two scans run in lock step (`scan_window`): the accumulator under the tuple is `Spec.window` of the accumulator under
`all`, because a match that is not reported still moves the scan on (`window_snoc`); once the window is full the scan
under the tuple stops and later matches do not change it (`window_append_of_full`).
-/
namespace Vore
open Vore.Spec

def amtAll : Amount := ⟨true, 0, 0, 0⟩

theorem window_amtAll (A : List Match) : window amtAll A = A := by simp [window, limitLast, amtAll]

theorem limitLast_zero (l : List Match) : limitLast 0 l = l := rfl

theorem limitLast_snoc {n : Nat} {Y : List Match} {m : Match} :
    limitLast n (Y ++ [m]) = limitLast n (limitLast n Y ++ [m]) := by
  unfold limitLast
  split
  · exact (Ds.lastN_append_lastN n Y [m]).symm
  · rfl

theorem window_nil (a : Amount) : window a [] = [] := by
  unfold window limitLast; split <;> simp

theorem window_append_of_full {a : Amount} (X more : List Match) (hall : a.all = false)
    (hfull : a.skip + a.take ≤ X.length) : window a (X ++ more) = window a X := by
  unfold window
  simp only [hall, Bool.false_eq_true, if_false]
  rw [List.take_append_of_le_length hfull]

theorem window_snoc {a : Amount} {X : List Match} {m : Match} (hopen : a.all = true ∨ X.length < a.skip + a.take) :
    window a (X ++ [m]) = if X.length ≥ a.skip then limitLast a.last (window a X ++ [m]) else window a X := by
  have htake : ∀ Y : List Match, Y.length ≤ X.length + 1 → (if a.all then Y else Y.take (a.skip + a.take)) = Y := by
    intro Y hY
    split
    · rfl
    · next hall => exact List.take_of_length_le (by have := hopen.resolve_left hall; omega)
  unfold window
  rw [htake (X ++ [m]) (by simp), htake X (by omega)]
  split
  · next hge => rw [List.drop_append_of_le_length hge]; exact limitLast_snoc
  · next hlt => rw [List.drop_eq_nil_of_le (by simp; omega), List.drop_eq_nil_of_le (by omega)]

theorem scan_all_extends {pf vf : Nat} {prog : List Instr} {text : Bytes} {f : Nat} {accA : List Match}
    {mn pos line col : Nat} {A : List Match} (h : scan pf vf prog amtAll text f accA mn pos line col = some (.ok A)) :
    ∃ more, A = accA ++ more := by
  refine scan_invariant (J := fun acc _ _ _ _ => ∃ more, acc = accA ++ more) (R := fun A => ∃ more, A = accA ++ more)
    ?_ (fun hJ _ => hJ) (fun hJ => hJ) ⟨[], by simp⟩ h
  rintro acc mn pos line col c ⟨more, rfl⟩ _ _
  exact ⟨more ++ [makeMatch (mn + 1) pos line col c], by simp [amtAll, limitLast]⟩

/-- in lock step: where the scan under `all` goes on, the scan under `a` goes on with the window of the same
accumulator, or has stopped with a full window -/
theorem scan_window {pf vf : Nat} {prog : List Instr} {a : Amount} {text : Bytes} :
    ∀ {f accA mn pos line col A}, mn = accA.length →
      scan pf vf prog amtAll text f accA mn pos line col = some (.ok A) →
      scan pf vf prog a text f (window a accA) mn pos line col = some (.ok (window a A)) := by
  intro f
  induction f with
  | zero => intro accA mn pos line col A _ h; simp [scan] at h
  | succ f ih =>
    rintro accA _ pos line col A rfl h
    by_cases hopen : a.all = true ∨ accA.length < a.skip + a.take
    · have hgo : (!(a.all || decide (accA.length < a.skip + a.take))) = false := by
        rcases hopen with h1 | h1 <;> simp [h1]
      rw [scan] at h ⊢
      simp only [amtAll, Bool.true_or, Bool.not_true, Bool.false_eq_true, if_false, Nat.zero_le, ge_iff_le, if_true,
        limitLast_zero] at h
      simp only [hgo, Bool.false_eq_true, if_false]
      cases hcls : classify (run pf prog text vf (initState pos line col)) with
      | hit c =>
        simp only [hcls] at h ⊢
        rw [← window_snoc hopen]
        by_cases hend : c.pos ≥ text.length
        · rw [if_pos hend] at h ⊢; cases h; rfl
        · rw [if_neg hend] at h ⊢; exact ih (by simp) h
      | miss =>
        simp only [hcls] at h ⊢
        rcases hb : readAt text pos 1 with _ | ⟨b, _ | _⟩
        · simp [hb] at h
        · simp only [hb] at h ⊢
          by_cases hend : pos + 1 ≥ text.length
          · rw [if_pos hend] at h ⊢; cases h; rfl
          · rw [if_neg hend] at h ⊢; exact ih rfl h
        · simp [hb] at h
      | _ => simp [hcls] at h
    · obtain ⟨more, rfl⟩ := scan_all_extends h
      obtain ⟨hall, hfull⟩ := not_or.mp hopen
      rw [Bool.not_eq_true] at hall
      rw [scan, window_append_of_full accA more hall (by omega)]
      simp [hall, hfull]

theorem findMatches_window (pf vf : Nat) (prog : List Instr) (a : Amount) (text : Bytes) (A : List Match)
    (h : findMatches pf vf prog amtAll text = some (.ok A)) :
    findMatches pf vf prog a text = some (.ok (window a A)) := by
  rw [findMatches_eq] at h ⊢
  split at h
  · next hc => cases h; rw [if_pos hc, window_nil]
  · next hc => rw [if_neg hc]; exact window_nil a ▸ scan_window (a := a) rfl h

end Vore

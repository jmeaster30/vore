import Vore.Spec.ParserGrammar
/-!
# Vore.Lemmas.ParserBasics — a small relational program logic for the parser

`Sim ts lo r g` relates a result of the index parser (`Vore.Parser`, Model/Parser.lean) to a result of the grammar
parser on the stripped tokens (`Vore.Grammar`, Spec/ParserGrammar.lean): `ok v k` faces `ok v (strip (ts.drop k))`
with `lo ≤ k < |ts|`, `error` faces `err`, `panic` and `fuel` face nothing.  There is one rule per combinator the
model functions are written in, so the proof about a function follows its body.  `EndsEof ts` is what `getTokens`
establishes (`pre ++ [eof]`, no EOF inside) and what keeps `consumeIgnoreableTokens` and `tokens[i+1]` inside the
list.  The bounds of an index and the fuel of a callee each travel as one fact.
-/
namespace Vore.Parser
open Vore Vore.Grammar

def EndsEof (ts : List Token) : Prop :=
  ∃ pre e, ts = pre ++ [e] ∧ e.kind = .eof ∧ ∀ t ∈ pre, t.kind ≠ .eof

variable {ts : List Token}

theorem EndsEof.pos (h : EndsEof ts) : 0 < ts.length := by
  obtain ⟨pre, e, rfl, _, _⟩ := h; simp

theorem lt_of_tk {i : Nat} {t : Token} (h : tk ts i = some t) : i < ts.length :=
  (List.getElem?_eq_some_iff.mp h).1

theorem tk_of_lt {i : Nat} (h : i < ts.length) : ∃ t, tk ts i = some t :=
  ⟨ts[i], List.getElem?_eq_getElem h⟩

theorem EndsEof.eof_iff {i : Nat} {t : Token} (h : EndsEof ts) (hi : tk ts i = some t) :
    t.kind = .eof ↔ i + 1 = ts.length := by
  obtain ⟨pre, e, rfl, he, hpre⟩ := h
  have hlt := lt_of_tk hi
  unfold tk at hi
  rw [List.length_append, List.length_singleton] at hlt ⊢
  by_cases hip : i < pre.length
  · rw [List.getElem?_append_left hip] at hi
    exact ⟨fun ht => absurd ht (hpre t (List.mem_of_getElem? hi)), fun _ => by omega⟩
  · obtain rfl : i = pre.length := by omega
    rw [List.getElem?_concat_length] at hi
    cases hi
    exact ⟨fun _ => rfl, fun _ => he⟩

/-- a token that is not EOF is not the last one: this is what makes `tokens[i+1]` safe -/
theorem EndsEof.succ_lt {i : Nat} {t : Token} (h : EndsEof ts)
    (hi : tk ts i = some t) (ht : t.kind ≠ .eof) : i + 1 < ts.length :=
  Nat.lt_of_le_of_ne (lt_of_tk hi) (mt (h.eof_iff hi).mpr ht)

theorem EndsEof.last_eof {i : Nat} (h : EndsEof ts) (hi : i + 1 = ts.length) :
    ∃ t, tk ts i = some t ∧ t.kind = .eof := by
  obtain ⟨t, ht⟩ := tk_of_lt (by omega : i < ts.length)
  exact ⟨t, ht, (h.eof_iff ht).mpr hi⟩

theorem ignorable_ne_eof {k : Tok} (h : ignorable k = true) : k ≠ .eof := by
  intro hk; subst hk; simp [ignorable] at h

theorem eof_sig {t : Token} (hk : t.kind = .eof) : ignorable t.kind = false := by simp [ignorable, hk]

@[simp] theorem sig_kind (t : Token) : (Token.sig t).kind = t.kind := rfl

theorem sig_lex {t : Token} {k : Tok} (hk : t.kind = k) (hc : carriesLexeme k = true) :
    (Token.sig t).lex = t.lexeme := by
  simp [Token.sig, hk, hc]

theorem drop_cons_of_tk {i : Nat} {t : Token} (h : tk ts i = some t) :
    ts.drop i = t :: ts.drop (i + 1) := by
  obtain ⟨hlt, rfl⟩ := List.getElem?_eq_some_iff.mp h
  exact List.drop_eq_getElem_cons hlt

theorem strip_drop_cons {i : Nat} {t : Token} (h : tk ts i = some t)
    (hs : ignorable t.kind = false) : strip (ts.drop i) = Token.sig t :: strip (ts.drop (i + 1)) := by
  rw [drop_cons_of_tk h]; simp [strip, List.filter, hs]

theorem strip_drop_ign {i : Nat} {t : Token} (h : tk ts i = some t)
    (hs : ignorable t.kind = true) : strip (ts.drop i) = strip (ts.drop (i + 1)) := by
  rw [drop_cons_of_tk h]; simp [strip, List.filter, hs]

/-- `consumeIgnoreableTokens` at a significant token -/
theorem skip_sig {i : Nat} {t : Token} (h : tk ts i = some t)
    (hs : ignorable t.kind = false) : skip ts i = some i := by
  unfold skip; rw [drop_cons_of_tk h]; simp [skipL, hs]

theorem skip_ign {i : Nat} {t : Token} (h : tk ts i = some t)
    (hs : ignorable t.kind = true) : skip ts i = skip ts (i + 1) := by
  unfold skip; rw [drop_cons_of_tk h]; simp [skipL, hs]

theorem withSkipTok_sig {β : Type} {i : Nat} {t : Token} (h : tk ts i = some t)
    (hs : ignorable t.kind = false) (K : Nat → Token → Res β) : withSkipTok ts i K = K i t := by
  simp [withSkipTok, skip_sig h hs, h]

/-- `consumeIgnoreableTokens` inside an `EndsEof` list -/
theorem skip_spec (h : EndsEof ts) {i : Nat} (hi : i < ts.length) :
    ∃ j t, skip ts i = some j ∧ tk ts j = some t ∧ ignorable t.kind = false ∧ i ≤ j ∧
      strip (ts.drop i) = strip (ts.drop j) := by
  obtain ⟨t, ht⟩ := tk_of_lt hi
  cases hs : ignorable t.kind with
  | false => exact ⟨i, t, skip_sig ht hs, ht, hs, Nat.le_refl _, rfl⟩
  | true =>
    obtain ⟨j, t', hj, htj, hsj, hle, hst⟩ := skip_spec h (h.succ_lt ht (ignorable_ne_eof hs))
    exact ⟨j, t', (skip_ign ht hs).trans hj, htj, hsj, Nat.le_of_succ_le hle, (strip_drop_ign ht hs).trans hst⟩
termination_by ts.length - i
decreasing_by exact Nat.sub_succ_lt_self _ _ hi

def Sim {α : Type} (ts : List Token) (lo : Nat) : Res α → GR α → Prop
  | .ok v k, .ok v' r => v = v' ∧ r = strip (ts.drop k) ∧ lo ≤ k ∧ k < ts.length
  | .error _ _, .err => True
  | _, _ => False

theorem sim_ok {α : Type} {lo k : Nat} {v : α} {r : List STok}
    (hr : r = strip (ts.drop k)) (hb : lo ≤ k ∧ k < ts.length) :
    Sim ts lo (Res.ok v k) (GR.ok v r) := ⟨rfl, hr, hb⟩

theorem sim_err {α : Type} {lo : Nat} {m : String} {a : Nat} :
    Sim (α := α) ts lo (Res.error m a) GR.err := trivial

theorem Sim.inv {α : Type} {lo : Nat} {r : Res α} {g : GR α} (h : Sim ts lo r g) :
    (∃ v k, r = .ok v k ∧ g = .ok v (strip (ts.drop k)) ∧ lo ≤ k ∧ k < ts.length) ∨
    (∃ m a, r = .error m a ∧ g = .err) :=
  match r, g, h with
  | .ok v k, .ok _ _, ⟨rfl, rfl, hb⟩ => .inl ⟨v, k, rfl, rfl, hb⟩
  | .error m a, .err, _ => .inr ⟨m, a, rfl, rfl⟩

theorem sim_mono {α : Type} {lo lo' : Nat} {r : Res α} {g : GR α}
    (h : Sim ts lo r g) (hle : lo' ≤ lo) : Sim ts lo' r g := by
  rcases h.inv with ⟨v, k, rfl, rfl, h1, h2⟩ | ⟨m, a, rfl, rfl⟩
  · exact sim_ok rfl ⟨Nat.le_trans hle h1, h2⟩
  · exact sim_err

/-- the continuation also learns which result it continues (for facts about the model run alone) -/
theorem sim_bind {α β : Type} {lo lo' : Nat} {r : Res α} {g : GR α}
    {K : α → Nat → Res β} {K' : α → List STok → GR β}
    (h : Sim ts lo r g)
    (hk : ∀ v k, r = .ok v k → lo ≤ k ∧ k < ts.length → Sim ts lo' (K v k) (K' v (strip (ts.drop k)))) :
    Sim ts lo' (r.bind K) (g.bind K') := by
  rcases h.inv with ⟨v, k, rfl, rfl, hb⟩ | ⟨m, a, rfl, rfl⟩
  · exact hk v k rfl hb
  · exact sim_err

theorem sim_map {α β : Type} {lo : Nat} {r : Res α} {g : GR α} {F : α → β} (h : Sim ts lo r g) :
    Sim ts lo (r.bind fun v k => .ok (F v) k) (g.bind fun v l => .ok (F v) l) :=
  sim_bind h fun _ _ _ hb => sim_ok rfl hb

theorem ite_rel {α β : Type} {R : α → β → Prop} {c : Prop} [Decidable c] {a b : α} {a' b' : β}
    (h1 : c → R a a') (h2 : ¬c → R b b') : R (if c then a else b) (if c then a' else b') := by
  split
  · exact h1 ‹_›
  · exact h2 ‹_›

/-- `ite_rel` for `Sim`: stated apart so that the test is read off the model side (the grammar's
`(Token.sig t).kind` is `t.kind` by unfolding) -/
theorem sim_ite {α : Type} {lo : Nat} {c : Prop} [Decidable c] {a b : Res α} {a' b' : GR α}
    (h1 : c → Sim ts lo a a') (h2 : ¬c → Sim ts lo b b') :
    Sim ts lo (if c then a else b) (if c then a' else b') :=
  ite_rel h1 h2

theorem next_head {β : Type} {i : Nat} {t : Token}
    (htk : tk ts i = some t) (hs : ignorable t.kind = false) (K' : STok → List STok → GR β) :
    next (strip (ts.drop i)) K' = K' (Token.sig t) (strip (ts.drop (i + 1))) := by
  rw [strip_drop_cons htk hs]; rfl

theorem sim_tok {β : Type} {lo i : Nat} {t : Token}
    (htk : tk ts i = some t) (hs : ignorable t.kind = false)
    {K : Token → Res β} {K' : STok → List STok → GR β}
    (hk : Sim ts lo (K t) (K' (Token.sig t) (strip (ts.drop (i + 1))))) :
    Sim ts lo (withTok ts i K) (next (strip (ts.drop i)) K') := by
  rw [next_head htk hs]
  simpa [withTok, htk] using hk

/-! ## the cursor

Every function is verified against one anchor `lo` (the `lo` of its `Sim`): the index it must not fall behind.
The bounds of an index travel as one fact `lo ≤ k ∧ k < ts.length` — what `Sim` asks of a result, what the skipping
rules ask of the index they start from, what `sim_bind` hands on — so that no step has to add up the steps before it. -/

/-- the cursor after a skip: index `j` holds the significant token `t`, not before the anchor -/
structure At (ts : List Token) (lo j : Nat) (t : Token) : Prop where
  tk : tk ts j = some t
  sig : ignorable t.kind = false
  le : lo ≤ j

theorem At.bnd {lo j : Nat} {t : Token} (p : At ts lo j t) : lo ≤ j ∧ j < ts.length :=
  ⟨p.le, lt_of_tk p.tk⟩

theorem At.succ {lo j : Nat} {t : Token} (p : At ts lo j t) (h : EndsEof ts)
    (hne : t.kind ≠ .eof) : lo ≤ j + 1 ∧ j + 1 < ts.length :=
  ⟨Nat.le_succ_of_le p.le, h.succ_lt p.tk hne⟩

/-- an optional token `k` at the cursor only moves the cursor: by one in the model, to the rest behind it in the
grammar (`i` is where the blanks before the cursor began) -/
theorem At.opt {lo i j : Nat} {t : Token} (p : At ts lo j t) (h : EndsEof ts)
    (hst : strip (ts.drop i) = strip (ts.drop j)) (k : Tok) (hk : k ≠ .eof) :
    (if (Token.sig t).kind = k then strip (ts.drop (j + 1)) else strip (ts.drop i)) =
      strip (ts.drop (if t.kind = k then j + 1 else j)) ∧
    lo ≤ (if t.kind = k then j + 1 else j) ∧ (if t.kind = k then j + 1 else j) < ts.length := by
  rw [sig_kind]
  split
  · exact ⟨rfl, p.succ h (‹t.kind = k› ▸ hk)⟩
  · exact ⟨hst, p.bnd⟩

/-- the token a function is entered at lies one before the function's anchor -/
theorem EndsEof.after {i : Nat} {t : Token} (h : EndsEof ts) (htk : tk ts i = some t)
    (hne : t.kind ≠ .eof) : i + 1 ≤ i + 1 ∧ i + 1 < ts.length :=
  ⟨Nat.le_refl _, h.succ_lt htk hne⟩

/-- a function entered at the cursor advances past it, so it stays behind the anchor -/
theorem At.sim {α : Type} {lo j : Nat} {t : Token} (p : At ts lo j t) {r : Res α} {g : GR α}
    (h : Sim ts (j + 1) r g) : Sim ts lo r g :=
  sim_mono h (Nat.le_succ_of_le p.le)

theorem sim_skipTok {β : Type} (h : EndsEof ts) {lo i : Nat} (hb : lo ≤ i ∧ i < ts.length)
    {K : Nat → Token → Res β} {K' : STok → List STok → GR β}
    (hk : ∀ j t, At ts lo j t → strip (ts.drop i) = strip (ts.drop j) →
      Sim ts lo (K j t) (K' (Token.sig t) (strip (ts.drop (j + 1))))) :
    Sim ts lo (withSkipTok ts i K) (next (strip (ts.drop i)) K') := by
  obtain ⟨j, t, hj, htj, hsj, hle, hst⟩ := skip_spec h hb.2
  rw [hst, next_head htj hsj]
  simpa [withSkipTok, hj, htj] using hk j t ⟨htj, hsj, Nat.le_trans hb.1 hle⟩ hst

/-- blanks before a call: the grammar goes straight to the callee -/
theorem sim_skip {α β : Type} (h : EndsEof ts) {lo i : Nat} (hb : lo ≤ i ∧ i < ts.length)
    {K : Nat → Token → Res β} {g : List STok → GR α} {K' : α → List STok → GR β}
    (hk : ∀ j t, At ts lo j t → Sim ts lo (K j t) ((g (strip (ts.drop j))).bind K')) :
    Sim ts lo (withSkipTok ts i K) ((g (strip (ts.drop i))).bind K') := by
  obtain ⟨j, t, hj, htj, hsj, hle, hst⟩ := skip_spec h hb.2
  rw [hst]
  simpa [withSkipTok, hj, htj] using hk j t ⟨htj, hsj, Nat.le_trans hb.1 hle⟩

/-- `c` rejects EOF, so the index behind the expected token is in range -/
theorem sim_expect {β : Type} (c : Tok → Prop) [DecidablePred c] (hc : ¬ c .eof) (h : EndsEof ts) {lo i : Nat}
    (hb : lo ≤ i ∧ i < ts.length) {K : Nat → Token → Res β} {K' : STok → List STok → GR β} {m : String}
    (hk : ∀ j t, c t.kind → lo ≤ j + 1 ∧ j + 1 < ts.length →
      Sim ts lo (K j t) (K' (Token.sig t) (strip (ts.drop (j + 1))))) :
    Sim ts lo (withSkipTok ts i fun j t => if c t.kind then K j t else .error m j)
      (next (strip (ts.drop i)) fun t r => if c t.kind then K' t r else .err) := by
  apply sim_skipTok h hb; intro j t p _
  exact sim_ite (fun hct => hk j t hct (p.succ h fun he => hc (he ▸ hct))) fun _ => sim_err

theorem sim_number {β : Type} (h : EndsEof ts) {lo i : Nat} (hb : lo ≤ i ∧ i < ts.length)
    {K : Nat → Token → Int → Res β} {K' : STok → List STok → Int → GR β}
    (hk : ∀ j t, lo ≤ j + 1 ∧ j + 1 < ts.length →
      ∀ v, Sim ts lo (K j t v) (K' (Token.sig t) (strip (ts.drop (j + 1))) v)) :
    Sim ts lo (withSkipTok ts i fun j t => withNumber t j (K j t))
      (next (strip (ts.drop i)) fun t r => gNumber t (K' t r)) := by
  apply sim_skipTok h hb; intro j t p _
  unfold withNumber gNumber
  refine sim_ite (fun hn => ?_) fun _ => sim_err
  rw [sig_lex hn rfl]
  cases atoi t.lexeme with
  | none => exact sim_err
  | some v => exact hk j t (p.succ h (by simp [hn])) v

/-! ### fuel: `m` units per remaining token plus a rank -/

/-- a callee entered strictly behind the caller's entry has fuel, whatever its rank below `m` -/
theorem fuel_later {m n i c a b f : Nat} (hf : m * (n - i) + a ≤ f + 1) (hc : i + 1 ≤ c ∧ c < n) (hb : b < m) :
    m * (n - c) + b ≤ f :=
  Nat.le_of_lt_succ <|
    calc m * (n - c) + b < m * (n - c + 1) := Nat.add_lt_add_left hb _
      _ ≤ m * (n - i) := Nat.mul_le_mul_left m (Nat.sub_lt_sub_left (Nat.lt_trans hc.1 hc.2) hc.1)
      _ ≤ f + 1 := Nat.le_of_add_right_le hf

theorem fuel_top {m n c a F : Nat} (hF : m * n + a ≤ F) : m * (n - c) + a ≤ F :=
  Nat.le_trans (Nat.add_le_add_right (Nat.mul_le_mul_left m (Nat.sub_le n c)) a) hF

/-- a callee of lower rank entered at the same index has fuel -/
theorem fuel_rank {x a b f : Nat} (hf : x + a ≤ f + 1) (hb : b < a) : x + b ≤ f := by omega

theorem fuel_rank_le {m n i c a b f : Nat} (hf : m * (n - i) + a ≤ f + 1) (hc : i ≤ c) (hb : b < a) :
    m * (n - c) + b ≤ f :=
  fuel_rank (Nat.le_trans (Nat.add_le_add_right (Nat.mul_le_mul_left m (Nat.sub_le_sub_left hc n)) a) hf) hb

/-- one unit per remaining token: a loop that has advanced has fuel for its next round -/
theorem fuel_loop {n i c a f : Nat} (hf : n - i + a ≤ f + 1) (hi : i < n) (hc : i < c) : n - c + a ≤ f := by omega

/-- the command level hands the statement parser half of what the expression parser needs -/
theorem fuel_half {n F : Nat} (hF : 8 * n + 7 ≤ F) : 4 * n + 3 ≤ F := by omega

theorem fuel_pos {x a f : Nat} (h : x + (a + 1) ≤ f) : ∃ f', f = f' + 1 :=
  -- `f = 0` is no case: `x + (a + 1) ≤ 0` has no proof
  match f, h with
  | f' + 1, _ => ⟨f', rfl⟩

/-- fuel for `m` units per remaining token is fuel for one -/
theorem fuel_len {m n i a f : Nat} (hf : m * (n - i) + a ≤ f) (hm : 0 < m) : n - i ≤ f :=
  Nat.le_trans (Nat.le_mul_of_pos_left _ hm) (Nat.le_trans (Nat.le_add_right _ _) hf)

def SigAt (ts : List Token) (k : Nat) : Prop := ∃ t, tk ts k = some t ∧ ignorable t.kind = false

theorem skipL_lands : ∀ (r : List Token) (i j : Nat), skipL r i = some j →
    ∃ n t, j = i + n ∧ r[n]? = some t ∧ ignorable t.kind = false
  | [], _, _, h => by simp [skipL] at h
  | t :: rest, i, j, h => by
    rw [skipL] at h
    split at h
    · obtain ⟨n, t', rfl, h2, h3⟩ := skipL_lands rest (i + 1) j h
      exact ⟨n + 1, t', by omega, h2, h3⟩
    · cases h; exact ⟨0, t, rfl, rfl, Bool.eq_false_iff.mpr ‹_›⟩

/-- where `consumeIgnoreableTokens` returns -/
theorem skip_lands {i j : Nat} (h : skip ts i = some j) : SigAt ts j := by
  obtain ⟨n, t, rfl, h2, h3⟩ := skipL_lands _ _ _ h
  exact ⟨t, List.getElem?_drop.symm.trans h2, h3⟩

theorem Res.bind_eq_ok {α β : Type} {r : Res α} {K : α → Nat → Res β} {v : β} {k : Nat}
    (h : r.bind K = .ok v k) : ∃ v' k', r = .ok v' k' ∧ K v' k' = .ok v k :=
  match r, h with
  | .ok v' k', h => ⟨v', k', rfl, h⟩

theorem withSkipTok_eq_ok {β : Type} {i k : Nat} {K : Nat → Token → Res β} {v : β}
    (h : withSkipTok ts i K = .ok v k) : ∃ j t, skip ts i = some j ∧ tk ts j = some t ∧ K j t = .ok v k := by
  unfold withSkipTok at h
  split at h
  · cases h
  · split at h
    · cases h
    · exact ⟨_, _, ‹_›, ‹_›, h⟩

end Vore.Parser

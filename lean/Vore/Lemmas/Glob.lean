import Vore.Spec.Glob
/-!
# Vore.Lemmas.Glob — the segment matcher decides the glob relation

`pathMatches` (split at the stars; prefix, leftmost occurrences, suffix) against the
recursive definition `Spec.Glob.matches`, and that against the relation `Spec.Glob.Matches`.
The one non-trivial step is `matches_star_mid`: taking the text between two stars at its
*leftmost* occurrence loses nothing, because the following star can absorb whatever a later
occurrence would have left to it.
-/
namespace Vore.Lemmas.Glob
open Vore.Path
open Vore.Spec.Glob (anySuffix Matches)

open Vore.Spec.Glob renaming «matches» → G

theorem star_eq : Path.star = Spec.Glob.star := rfl
theorem slash_eq : Path.slash = Spec.Glob.slash := rfl

theorem G_nil (s : Bytes) : G [] s = s.isEmpty := by
  simp [Spec.Glob.«matches»]

theorem G_star (p s : Bytes) : G (Spec.Glob.star :: p) s = anySuffix (G p) s := by
  simp [Spec.Glob.«matches»]

theorem G_lit_nil {c : UInt8} {p : Bytes} (h : c ≠ Spec.Glob.star) : G (c :: p) [] = false := by
  simp [Spec.Glob.«matches», h]

theorem G_lit_cons {c d : UInt8} {p s : Bytes} (h : c ≠ Spec.Glob.star) :
    G (c :: p) (d :: s) = (c == d && G p s) := by
  simp [Spec.Glob.«matches», h]

theorem anySuffix_iff (k : Bytes → Bool) (s : Bytes) :
    anySuffix k s = true ↔ ∃ t, t <:+ s ∧ k t = true := by
  induction s with
  | nil => simp [anySuffix]
  | cons c s ih =>
    simp only [anySuffix, Bool.or_eq_true, ih, List.suffix_cons_iff, or_and_right, exists_or, exists_eq_left]

/-- a star can absorb more: if the rest matches a suffix of a suffix, it matches a suffix -/
theorem anySuffix_drop (k : Bytes → Bool) (s : Bytes) (j : Nat) (h : anySuffix k (s.drop j) = true) :
    anySuffix k s = true := by
  rw [anySuffix_iff] at h ⊢
  obtain ⟨t, ht, h⟩ := h
  exact ⟨t, ht.trans (List.drop_suffix j s), h⟩

theorem G_lit_append (lit : Bytes) (h : Spec.Glob.star ∉ lit) (p s : Bytes) :
    G (lit ++ p) s = (lit.isPrefixOf s && G p (s.drop lit.length)) := by
  induction lit generalizing s with
  | nil => simp
  | cons c lit ih =>
    have hc : c ≠ Spec.Glob.star := fun e => h (by simp [e])
    have hl : Spec.Glob.star ∉ lit := fun e => h (by simp [e])
    cases s with
    | nil => simp [G_lit_nil hc]
    | cons d s =>
      simp only [List.cons_append, G_lit_cons hc, ih hl, List.isPrefixOf_cons_cons,
        List.length_cons, List.drop_succ_cons, Bool.and_assoc]

theorem G_lit (lit : Bytes) (h : Spec.Glob.star ∉ lit) (s : Bytes) : G lit s = (s == lit) := by
  have := G_lit_append lit h [] s
  rw [List.append_nil] at this
  rw [this, G_nil]
  apply Bool.eq_iff_iff.mpr
  simp only [Bool.and_eq_true, List.isPrefixOf_iff_prefix, List.isEmpty_iff, beq_iff_eq]
  constructor
  · rintro ⟨⟨t, rfl⟩, h2⟩
    simp at h2
    simp [h2]
  · rintro rfl
    simp

theorem G_star_last (last : Bytes) (h : Spec.Glob.star ∉ last) (s : Bytes) :
    G (Spec.Glob.star :: last) s = last.isSuffixOf s := by
  rw [G_star]
  apply Bool.eq_iff_iff.mpr
  rw [anySuffix_iff, List.isSuffixOf_iff_suffix]
  simp only [G_lit last h, beq_iff_eq]
  exact ⟨fun ⟨_, ht, e⟩ => e ▸ ht, fun hs => ⟨last, hs, rfl⟩⟩

/-- `*text*q`: take the text at its leftmost occurrence (`strings.Index`) -/
theorem matches_star_mid (part : Bytes) (h : Spec.Glob.star ∉ part) (q s : Bytes) :
    G (Spec.Glob.star :: (part ++ Spec.Glob.star :: q)) s =
      match index part s with
      | none => false
      | some i => G (Spec.Glob.star :: q) (s.drop (i + part.length)) := by
  rw [G_star]
  induction s with
  | nil =>
    simp only [anySuffix, index, G_lit_append part h]
    cases part.isPrefixOf ([] : Bytes) <;> simp
  | cons c s ih =>
    simp only [anySuffix, index, ih, G_lit_append part h]
    cases part.isPrefixOf (c :: s)
    · -- no occurrence here: whatever the tail says
      simp only [Bool.false_and, Bool.false_or, if_false, Bool.false_eq_true]
      cases index part s with
      | none => simp
      | some i =>
        simp only [Option.map_some]
        rw [show i + 1 + part.length = (i + part.length) + 1 by omega, List.drop_succ_cons]
    · -- an occurrence here: a later one cannot do better
      simp only [Bool.true_and, if_true, Nat.zero_add]
      rw [Bool.or_eq_left_iff_imp]
      cases index part s with
      | none => nofun
      | some i =>
        intro (h2 : G (Spec.Glob.star :: q) (s.drop (i + part.length)) = true)
        rw [G_star] at h2 ⊢
        -- (c :: s).drop (i + 1 + |part|) is a suffix of (c :: s).drop |part|
        apply anySuffix_drop _ _ (i + 1)
        rw [List.drop_drop, show part.length + (i + 1) = (i + part.length) + 1 by omega,
          List.drop_succ_cons]
        exact h2

/-- the pattern `*part*more₁*more₂…` -/
theorem matchRest_eq (more : List Bytes) : ∀ (part target : Bytes),
    Spec.Glob.star ∉ part → (∀ p ∈ more, Spec.Glob.star ∉ p) →
    matchRest target part more = G (Spec.Glob.star :: (part ++ more.flatMap (Spec.Glob.star :: ·))) target := by
  induction more with
  | nil =>
    intro part target hp _
    simp only [matchRest, List.flatMap_nil, List.append_nil]
    exact (G_star_last part hp target).symm
  | cons next more ih =>
    intro part target hp hm
    obtain ⟨hn, hm'⟩ := List.forall_mem_cons.mp hm
    simp only [matchRest, List.flatMap_cons, List.cons_append]
    rw [matches_star_mid part hp]
    cases index part target with
    | none => rfl
    | some i => exact ih next _ hn hm'

/-! ## `strings.Split` -/

/-- the parts are free of the separator and joining them with it gives the string back -/
theorem splitByte_spec (sep : UInt8) (s : Bytes) :
    ∃ first rest, splitByte sep s = first :: rest ∧ s = first ++ rest.flatMap (sep :: ·) ∧
      ∀ p ∈ first :: rest, sep ∉ p := by
  induction s with
  | nil => exact ⟨[], [], by simp [splitByte]⟩
  | cons c s ih =>
    obtain ⟨first, rest, h1, h2, h3⟩ := ih
    by_cases hc : c = sep
    · subst hc
      exact ⟨[], first :: rest, by simp [splitByte, h1], by simp [← h2], List.forall_mem_cons.mpr ⟨nofun, h3⟩⟩
    · obtain ⟨hf, hr⟩ := List.forall_mem_cons.mp h3
      refine ⟨c :: first, rest, by simp [splitByte, h1, hc], by simp [← h2], List.forall_mem_cons.mpr ⟨?_, hr⟩⟩
      rw [List.mem_cons, not_or]
      exact ⟨fun e => hc e.symm, hf⟩

theorem splitByte_ne_nil (sep : UInt8) (s : Bytes) : splitByte sep s ≠ [] := by
  obtain ⟨_, _, h, -⟩ := splitByte_spec sep s
  rw [h]; nofun

theorem pathMatches_eq (name pat : Bytes) : Path.pathMatches name pat = G pat name := by
  obtain ⟨first, rest, h1, h2, h4⟩ := splitByte_spec Path.star pat
  rw [star_eq] at h1 h2 h4
  obtain ⟨h3, h4⟩ := List.forall_mem_cons.mp h4
  unfold Path.pathMatches
  rw [star_eq, h1]
  cases rest with
  | nil =>
    simp only [List.flatMap_nil, List.append_nil] at h2
    subst h2
    exact (G_lit pat h3 name).symm
  | cons part more =>
    obtain ⟨hp, hm⟩ := List.forall_mem_cons.mp h4
    simp only []
    rw [h2, G_lit_append first h3, List.flatMap_cons, List.cons_append]
    cases first.isPrefixOf name
    · simp
    · simp only [if_true, Bool.true_and]
      exact matchRest_eq more part _ hp hm

theorem Matches_of_G : ∀ (pat name : Bytes), G pat name = true → Matches pat name
  | [], name, h => by
    rw [G_nil] at h
    have : name = [] := by simpa using h
    subst this
    exact .nil
  | p :: pat, name, h => by
    by_cases hp : p = Spec.Glob.star
    · subst hp
      rw [G_star, anySuffix_iff] at h
      obtain ⟨t, ⟨run, rfl⟩, ht⟩ := h
      exact Matches.star run (Matches_of_G pat t ht)
    · cases name with
      | nil => simp [G_lit_nil hp] at h
      | cons c name =>
        rw [G_lit_cons hp] at h
        simp only [Bool.and_eq_true, beq_iff_eq] at h
        obtain ⟨rfl, h⟩ := h
        exact .lit hp (Matches_of_G pat name h)

theorem G_of_Matches {pat name : Bytes} (h : Matches pat name) : G pat name = true := by
  induction h with
  | nil => rfl
  | lit hc _ ih => rw [G_lit_cons hc]; simp [ih]
  | star run _ ih =>
    rw [G_star, anySuffix_iff]
    exact ⟨_, List.suffix_append run _, ih⟩

theorem matches_iff (pat name : Bytes) : G pat name = true ↔ Matches pat name :=
  ⟨Matches_of_G pat name, G_of_Matches⟩

end Vore.Lemmas.Glob

import Vore.Spec.Replace
import Vore.Lemmas.Replace
import Vore.Lemmas.Scan
import Vore.Lemmas.Assoc
/-!
# Vore.Lemmas.ReplaceSpec — the replacer program computes `Spec.replacement` (C05); the copy loop computes
`Spec.splice`, and which paths a run over files may change (`ModeFrame`) (C06)
-/
namespace Vore
open Vore.Spec

/-- `InitReplacerState`: the built-ins on top of the variables of the match -/
theorem replacerVars_get (m : Match) (total : Nat) (fn : Bytes) (x : String) :
    (replacerVars m total fn).get x =
      match builtin m total fn x with
      | some b => some (.str b)
      | none => m.vars.get x := by
  simp only [replacerVars, VMap.get_put, builtin]
  -- the built-ins are looked up in the opposite order of their assignments; the names are distinct
  by_cases h8 : x = "filename"
  · simp [h8]
  by_cases h7 : x = "value"
  · simp [h7]
  by_cases h6 : x = "columnNumber"
  · simp [h6]
  by_cases h5 : x = "lineNumber"
  · simp [h5]
  by_cases h4 : x = "endOffset"
  · simp [h4]
  by_cases h3 : x = "startOffset"
  · simp [h3]
  by_cases h2 : x = "matchNumber"
  · simp [h2]
  by_cases h1 : x = "totalMatches"
  · simp [h1]
  simp only [h1, h2, h3, h4, h5, h6, h7, h8, Ne.symm h1, Ne.symm h2, Ne.symm h3, Ne.symm h4, Ne.symm h5, Ne.symm h6,
    Ne.symm h7, Ne.symm h8, if_false]

theorem replItem_eq (pf : Nat) (st : GenState) (m : Match) (total : Nat) (fn : Bytes) (it : RAtom) :
    replItem pf (replacerVars m total fn) m (genReplacer st it) = itemText pf st.transforms m total fn it := by
  cases it with
  | str s => rfl
  | var x =>
    unfold genReplacer itemText
    cases hl : lookup st.transforms x with
    | some body =>
      simp only [hl, replItem]
      -- the same run on both sides, under the `match` of two different functions
      rcases runProcess pf body (transformEnv (replacerVars m total fn) m) with _ | _ | _ <;> rfl
    | none =>
      simp only [hl, replItem, replacerVars_get, nameText]
      cases builtin m total fn x with
      | some b => rfl
      | none => rcases m.vars.get x with _ | _ | _ <;> rfl

theorem runReplacer_eq (pf : Nat) (st : GenState) (m : Match) (total : Nat) (fn : Bytes) :
    ∀ (items : List RAtom) (acc : Option Bytes),
      runReplacer pf (replacerVars m total fn) m (items.map (genReplacer st)) acc =
        replacement pf st.transforms m total fn items acc := by
  intro items
  induction items with
  | nil => intro acc; rfl
  | cons it rest ih =>
    intro acc
    simp only [List.map_cons, runReplacer, replacement, replItem_eq, ih]
    rcases itemText pf st.transforms m total fn it with (_ | _) | _ | _ <;> rfl

theorem writeAt_end (out data : Bytes) : writeAt out out.length data = out ++ data := by
  unfold writeAt
  simp

/-- matches in order from `from_`, in range, with values of the right length -/
def OkFrom (text : Bytes) : Nat → List Match → Prop
  | _, [] => True
  | from_, m :: ms => from_ ≤ m.startPos ∧ m.startPos ≤ m.endPos ∧ m.endPos ≤ text.length ∧
      m.value.length = m.endPos - m.startPos ∧ OkFrom text m.endPos ms

theorem slice_length {text : Bytes} {a b : Nat} (hb : b ≤ text.length) : (slice text a b).length = b - a := by
  rw [slice, List.length_take, List.length_drop, Nat.min_eq_left (Nat.sub_le_sub_right hb a)]

theorem readAt_slice (text : Bytes) {a b : Nat} (hb : b ≤ text.length) :
    readAt text a (b - a) = splice.slice' text a b := by
  by_cases h0 : b - a = 0
  · simp [h0, readAt, splice.slice']
  · exact readAt_of_le h0 (by omega)

/-- from a writer offset at the end of `out` the copy loop only appends: what it appends, followed by the text after
its last read position, is the splice -/
theorem spliceLoop_spec (text : Bytes) : ∀ (ms : List Match) (lr : Nat) (out : Bytes), OkFrom text lr ms →
    ∃ body lr', spliceLoop text ms lr out.length out = (out ++ body, lr', (out ++ body).length) ∧
      body ++ text.drop lr' = splice text ms lr := by
  intro ms
  induction ms with
  | nil => intro lr out _; exact ⟨[], lr, by simp [spliceLoop], by simp [splice]⟩
  | cons m rest ih =>
    intro lr out ⟨h1, h2, h3, h4, h5⟩
    have hr := readAt_slice text (a := lr) (Nat.le_trans h2 h3)
    obtain ⟨body, lr', hb, hs⟩ := ih m.endPos (out ++ splice.slice' text lr m.startPos ++ m.replacement.getD []) h5
    refine ⟨splice.slice' text lr m.startPos ++ m.replacement.getD [] ++ body, lr', ?_, ?_⟩
    · -- both writes of this round land at the end of what has been written
      have hwo : out.length + (m.startPos - lr) = (out ++ splice.slice' text lr m.startPos).length := by
        rw [List.length_append, ← hr, readAt_length (by omega)]
      rw [spliceLoop, writeAt_end, hr, hwo, writeAt_end, ← List.length_append,
        show lr + (m.startPos - lr) + m.value.length = m.endPos by omega, hb]
      simp only [List.append_assoc]
    · rw [splice, ← hs]; simp only [List.append_assoc]

theorem okFrom_of_faithful (text : Bytes) : ∀ (ms : List Match) (from_ : Nat), faithful text ms = true →
    (∀ m, ms.head? = some m → from_ ≤ m.startPos) → OkFrom text from_ ms := by
  intro ms
  induction ms with
  | nil => intro _ _ _; trivial
  | cons m rest ih =>
    intro from_ hf hhead
    simp only [faithful, List.all_cons, Bool.and_eq_true] at hf
    obtain ⟨⟨hm, hrest⟩, hchain⟩ := hf
    obtain ⟨m1, m2, m3, _⟩ := matchOk_meaning text m hm
    refine ⟨hhead m rfl, Nat.le_of_lt m1, m2, ?_, ih m.endPos ?_ ?_⟩
    · rw [m3, slice_length m2]
    · simp only [faithful, Bool.and_eq_true]
      exact ⟨hrest, chainOk_of_cons hchain⟩
    · intro b hb
      cases rest with
      | nil => cases hb
      | cons b' r' =>
        cases hb
        simp only [chainOk, Bool.and_eq_true, decide_eq_true_eq] at hchain
        exact hchain.1.1

theorem writtenText_eq_splice (text : Bytes) (ms : List Match) (hf : faithful text ms = true) :
    writtenText text ms = splice text ms 0 := by
  obtain ⟨body, lr, hb, hs⟩ := spliceLoop_spec text ms 0 [] (okFrom_of_faithful text ms 0 hf fun _ _ => Nat.zero_le _)
  unfold writtenText
  rw [show spliceLoop text ms 0 0 [] = _ from hb, ← hs]
  simp only [List.nil_append]
  split
  · next hlt => rw [writeAt_end, readAt_of_le (by omega) (by omega), List.take_of_length_le (by simp)]
  · next hge => rw [List.drop_eq_nil_of_le (by omega), List.append_nil]

theorem FileSys.get_put_same {fs : FileSys} {p c : Bytes} : (fs.put p c).get p = some c := by
  unfold FileSys.put FileSys.get
  rw [find?_cons_filter, beq_self_eq_true]
  rfl

theorem FileSys.get_put_other {fs : FileSys} {p q c : Bytes} (h : q ≠ p) : (fs.put p c).get q = fs.get q := by
  unfold FileSys.put FileSys.get
  rw [find?_cons_filter, if_neg (by simpa using Ne.symm h)]

/-- the file system after one command on one file: a replace command in mode NEW / OVERWRITE (re)creates its
destination with the written text; nothing else writes -/
def fsAfter (mode : Mode) (fs : FileSys) (fn text : Bytes) (ms : List Match) : BCmd → FileSys
  | .replace .. =>
    match mode with
    | .new => fs.put (fn ++ voredSuffix) (writtenText text ms)
    | .overwrite => fs.put fn (writtenText text ms)
    | _ => fs
  | _ => fs

theorem searchFile_ok {pf vf : Nat} {mode : Mode} {fs fs' : FileSys} {fn text : Bytes} {c : BCmd} {ms : List Match}
    (h : searchFile pf vf mode fs fn text c = some (.ok (ms, fs'))) :
    runCmd pf vf fn text c = some (.ok ms) ∧ fs' = fsAfter mode fs fn text ms c := by
  unfold searchFile at h
  split at h
  · -- a replace command: the destination depends on the mode (CONFIRM has no writer and panics)
    split at h
    · next hrun =>
      cases mode with
      | confirm => cases h
      | _ => cases h; exact ⟨hrun, rfl⟩
    all_goals cases h
  · next hc =>
    -- any other command writes nothing
    have hfs : fsAfter mode fs fn text ms c = fs := by
      cases c with
      | replace amt code rep => exact absurd rfl (hc amt code rep)
      | _ => rfl
    split at h
    · next hrun => cases h; exact ⟨hrun, hfs.symm⟩
    all_goals cases h

/-- what a run may change, by mode: NOTHING nothing, NEW only paths `<f>.vored` and OVERWRITE only paths `f`, for
files `f` it visits -/
def ModeFrame (mode : Mode) (files : Bytes → Prop) (fs fs' : FileSys) : Prop :=
  (mode = .nothing → fs' = fs) ∧
  (mode = .new → ∀ q, (∀ f, files f → q ≠ f ++ voredSuffix) → fs'.get q = fs.get q) ∧
  (mode = .overwrite → ∀ q, ¬ files q → fs'.get q = fs.get q)

theorem ModeFrame.refl {mode : Mode} {files : Bytes → Prop} {fs : FileSys} : ModeFrame mode files fs fs :=
  ⟨fun _ => rfl, fun _ _ _ => rfl, fun _ _ _ => rfl⟩

theorem ModeFrame.trans {mode : Mode} {files : Bytes → Prop} {fs fs1 fs2 : FileSys}
    (a : ModeFrame mode files fs fs1) (b : ModeFrame mode files fs1 fs2) : ModeFrame mode files fs fs2 :=
  ⟨fun hm => (b.1 hm).trans (a.1 hm), fun hm q hq => (b.2.1 hm q hq).trans (a.2.1 hm q hq),
   fun hm q hq => (b.2.2 hm q hq).trans (a.2.2 hm q hq)⟩

theorem ModeFrame.mono {mode : Mode} {files files' : Bytes → Prop} {fs fs' : FileSys} (h : ∀ f, files f → files' f)
    (a : ModeFrame mode files fs fs') : ModeFrame mode files' fs fs' :=
  ⟨a.1, fun hm q hq => a.2.1 hm q fun f hf => hq f (h f hf), fun hm q hq => a.2.2 hm q fun hf => hq (h q hf)⟩

theorem searchFile_frame {pf vf : Nat} {mode : Mode} {fs fs' : FileSys} {fn text : Bytes} {c : BCmd} {ms : List Match}
    (h : searchFile pf vf mode fs fn text c = some (.ok (ms, fs'))) : ModeFrame mode (· = fn) fs fs' := by
  obtain ⟨_, rfl⟩ := searchFile_ok h
  cases c with
  | replace =>
    cases mode with
    | new => exact ⟨nofun, fun _ q hq => FileSys.get_put_other (hq fn rfl), nofun⟩
    | overwrite => exact ⟨nofun, nofun, fun _ q hq => FileSys.get_put_other hq⟩
    | _ => exact .refl
  | _ => exact .refl

theorem runFilesCmd_frame {pf vf : Nat} {mode : Mode} {c : BCmd} :
    ∀ {files : List Bytes} {fs fs' : FileSys} {ms : List Match},
      runFilesCmd pf vf mode c files fs = some (.ok (ms, fs')) → ModeFrame mode (· ∈ files) fs fs' := by
  intro files
  induction files with
  | nil => intro fs fs' ms h; cases h; exact .refl
  | cons f rest ih =>
    intro fs fs' ms h
    simp only [runFilesCmd] at h
    split at h
    · cases h
    · split at h
      · next h1 =>
        split at h
        · next h2 =>
          cases h
          exact ((searchFile_frame h1).mono fun g hg => hg ▸ List.mem_cons_self).trans
            ((ih h2).mono fun g hg => List.mem_cons_of_mem _ hg)
        all_goals cases h
      all_goals cases h

theorem runFilesL_frame {pf vf : Nat} {mode : Mode} {files : List Bytes} :
    ∀ {cmds : List BCmd} {fs fs' : FileSys} {ms : List Match},
      runFilesL pf vf mode files cmds fs = some (.ok (ms, fs')) → ModeFrame mode (· ∈ files) fs fs' := by
  intro cmds
  induction cmds with
  | nil => intro fs fs' ms h; cases h; exact .refl
  | cons c cs ih =>
    intro fs fs' ms h
    simp only [runFilesL] at h
    split at h
    · next h1 =>
      split at h
      · next h2 => cases h; exact (runFilesCmd_frame h1).trans (ih h2)
      all_goals cases h
    all_goals cases h

/-- every command lists the directory again: which files are visited is not known beforehand -/
theorem runFilesDir_frame {pf vf : Nat} {mode : Mode} :
    ∀ {cmds : List BCmd} {fs fs' : FileSys} {ms : List Match},
      runFilesDir pf vf mode cmds fs = some (.ok (ms, fs')) → ModeFrame mode (fun _ => True) fs fs' := by
  intro cmds
  induction cmds with
  | nil => intro fs fs' ms h; cases h; exact .refl
  | cons c cs ih =>
    intro fs fs' ms h
    simp only [runFilesDir] at h
    split at h
    · next h1 =>
      split at h
      · next h2 =>
        cases h
        exact ((runFilesCmd_frame h1).mono fun _ _ => trivial).trans (ih h2)
      all_goals cases h
    all_goals cases h

end Vore

import Vore.Lemmas.Typing
import Vore.Lemmas.DocCells
/-!
# Vore.Lemmas.DocEval — the evaluator computes the documented value of every well-typed expression
-/
namespace Vore
open Vore.Tables Vore.Spec Vore.Spec.Typing

theorem evalExpr_var (ρ : PEnv) (x : String) : evalExpr ρ (.var x) = .val (lookup ρ x) := by
  simp only [evalExpr, lookup]
  cases ρ.get x <;> rfl

theorem unType_eq_some {s : PT} {op : Op} {t : PT} :
    unType s op = some t ↔
      s = .boolean ∧ op = .not ∧ t = .boolean ∨ s = .string ∧ (op = .head ∨ op = .tail) ∧ t = .string := by
  unfold unType
  grind

/-- the type of `executeUnaryExpression`'s result depends on the operator only -/
theorem evalUn_type {s : PT} {op : Op} {t : PT} (h : unType s op = some t) (v : PVal) :
    (evalUn op v).type = t := by
  rcases unType_eq_some.mp h with ⟨_, rfl, rfl⟩ | ⟨_, rfl | rfl, rfl⟩ <;> rfl

/-- the table has three unary rows: `not` on a boolean, `head` and `tail` on a string.  Read off
the checker's two arms (`unType`), so through `unType_documented` and the regenerated typing table. -/
theorem evalUn_documented (op : Op) (v : PVal) (t : PT) (h : DocOps.unType v.type op = some t) :
    DocOps.evalUn op v = .val (evalUn op v) ∧ (evalUn op v).type = t := by
  rw [← unType_documented] at h
  refine ⟨?_, evalUn_type h v⟩
  -- each arm fixes the operator and the operand's type, hence the constructor of `v`
  rcases unType_eq_some.mp h with ⟨hv, rfl, _⟩ | ⟨hv, rfl | rfl, _⟩
  all_goals
    cases v <;> cases hv
    rfl

theorem toEvalRes_eq_some {d : DocOps.Res} {e : EvalRes} (h : d.toEvalRes = some e) :
    (∃ v, d = .val v ∧ e = .val v) ∨ (d = .divByZero ∧ e = .panic divZeroTag) := by
  cases d with
  | val v => exact .inl ⟨v, rfl, (Option.some.inj h).symm⟩
  | divByZero => exact .inr ⟨rfl, (Option.some.inj h).symm⟩
  | undefined => cases h

theorem evalExpr_documented {Γ : Env} {ρ : PEnv} (hρ : Models ρ Γ) {e : PExpr} {t : PT} (h : HasType Γ e t) :
    (DocOps.eval ρ e).toEvalRes = some (evalExpr ρ e) ∧ ∀ v, DocOps.eval ρ e = .val v → v.type = t := by
  induction h with
  | var x =>
    rw [evalExpr_var]
    exact ⟨rfl, fun v hv => by cases hv; exact hρ x⟩
  | @un op _ _ t' _ hu ih =>
    rcases toEvalRes_eq_some ih.1 with ⟨v, hd, hv⟩ | ⟨hd, hv⟩
    · obtain ⟨u1, u2⟩ := evalUn_documented op v t' (ih.2 v hd ▸ hu)
      simp only [DocOps.eval, hd, evalExpr, hv, u1]
      exact ⟨rfl, fun w hw => by cases hw; exact u2⟩
    · simp only [DocOps.eval, hd, evalExpr, hv]
      exact ⟨rfl, nofun⟩
  | @bin op _ _ _ _ t _ _ hb ihl ihr =>
    rcases toEvalRes_eq_some ihl.1 with ⟨lv, hdl, hlv⟩ | ⟨hdl, hlv⟩
    · rcases toEvalRes_eq_some ihr.1 with ⟨rv, hdr, hrv⟩ | ⟨hdr, hrv⟩
      · simp only [DocOps.eval, hdl, hdr, evalExpr, hlv, hrv]
        exact evalBin_cells_documented op lv rv t (ihl.2 lv hdl ▸ ihr.2 rv hdr ▸ hb)
      · simp only [DocOps.eval, hdl, hdr, evalExpr, hlv, hrv]
        exact ⟨rfl, nofun⟩
    · simp only [DocOps.eval, hdl, evalExpr, hlv]
      exact ⟨rfl, nofun⟩
  | _ => exact ⟨rfl, fun v hv => by cases hv; rfl⟩

end Vore

import Vore.Lemmas.LexItems
/-!
# Vore.Lemmas.LexLayout — what layout and letter case cannot change

The significant tokens of a well-separated item list are the tokens of its significant items; re-casing the words of
such a list keeps it well separated and keeps every token kind.
-/
namespace Vore.Lex
open Vore Vore.ExtractedLex

/-- kinds and lexemes that survive stripping -/
def sigKl (x : Tok × Bytes) : Bool := x.1 != .ws && x.1 != .comment

theorem significant_tokens (ts : List Token) :
    significant (.tokens ts) = some ((ts.map Token.kl).filter sigKl) := by
  simp only [significant, List.filter_map]
  rfl

theorem significant_items (items : List Item) (h : WellSep [] items) :
    significant (lex (renderItems items)) =
      some ((items.filter (fun it => !it.insignificant)).map Item.kl ++ [(.eof, [])]) := by
  obtain ⟨ts, hts, hkl⟩ := getTokens_items items 0 none h
  rw [lex, initLexer, hts, significant_tokens, hkl, List.filter_append, List.filter_map,
    show sigKl ∘ Item.kl = _ from funext fun it => (item_kind it).2]
  rfl

theorem lower_letter_eq (c : UInt8) : isLetterB c = isLetterB (asciiLower c) := by
  simp only [isLetterB_eq, isLetter_lower]

theorem lower_alnum_eq (c : UInt8) : isAlnumB c = isAlnumB (asciiLower c) := by
  simp only [isAlnumB_eq, isLetter_lower, isDigit_lower]

theorem kwLookup_case (w w' : Bytes) (h : w.map asciiLower = w'.map asciiLower) : kwLookup w = kwLookup w' := by
  simp [kwLookup, kwKey, goKeywordsLower_true, h]

theorem word_ok_case (w w' : Bytes) (h : w.map asciiLower = w'.map asciiLower) (hok : (Item.word w).ok) :
    (Item.word w').ok := by
  obtain ⟨l, ws, rfl, hl, hws⟩ := hok
  cases w' with
  | nil => simp at h
  | cons l' ws' =>
    simp only [List.map_cons, List.cons.injEq] at h
    refine ⟨l', ws', rfl, ?_, fun c hc => ?_⟩
    · rw [lower_letter_eq, ← h.1, ← lower_letter_eq]; exact hl
    · -- some character of `ws` has the same lower case as `c`
      obtain ⟨d, hd, hdc⟩ := List.mem_map.mp (h.2 ▸ List.mem_map_of_mem (f := asciiLower) hc)
      rw [lower_alnum_eq, ← hdc, ← lower_alnum_eq]
      exact hws d hd

/-! ## an item looks only at the first character of what follows it, and at no more than its class if it is a letter -/

theorem letter_facts (c : UInt8) (h : isLetter c) :
    isAlnumB c = true ∧ isDigitB c = false ∧ isSpaceB c = false ∧ c ≠ 45 ∧ c ≠ 61 ∧ c ≠ 10 := by
  have hsp := (classes_disjoint c).2.1 h
  have hc := class_not_special (.inr (.inr h))
  exact ⟨by simp [isAlnumB_eq, h], by simpa [isDigitB_eq] using (classes_disjoint c).2.2 h,
    by simpa [isSpaceB_eq] using hsp, fun h45 => hc (h45 ▸ by decide), fun h61 => hc (h61 ▸ by decide),
    fun h10 => hsp (h10 ▸ by decide)⟩

/-- the first characters of two texts are equal, or both are letters -/
def HeadRel (a b : Bytes) : Prop :=
  a.head? = b.head? ∨ ∃ c c', a.head? = some c ∧ b.head? = some c' ∧ isLetter c ∧ isLetter c'

theorem sep_headRel (it : Item) (a b : Bytes) (h : HeadRel a b) (hs : it.sep a) : it.sep b := by
  rcases h with h | ⟨c, c', ha, hb, hc, hc'⟩
  · cases it with
    | word _ | number _ | blank _ | op1 _ | lineComment _ => exact fun x hx => hs x (h.trans hx)
    | _ => trivial
  · obtain ⟨f1, -, -, -, -, f6⟩ := letter_facts c hc
    obtain ⟨-, g2, g3, g4, g5, -⟩ := letter_facts c' hc'
    cases it with
    | word w => cases f1.symm.trans (hs c ha)
    | number d => intro x hx; rw [hb] at hx; cases hx; exact g2
    | blank w => intro x hx; rw [hb] at hx; cases hx; exact g3
    | op1 o =>
      intro x hx; rw [hb] at hx; cases hx
      split
      · exact g4
      · exact g5
    | lineComment t => exact absurd (hs c ha) f6
    | _ => trivial

theorem item_render_ne_nil (it : Item) (h : it.ok) : it.render ≠ [] := by
  cases it with
  | word w => obtain ⟨l, ws, rfl, _⟩ := h; simp [Item.render]
  | number d => exact h.1
  | blank w => exact h.1
  | _ => simp [Item.render, literal]

end Vore.Lex

import Vore.Lemmas.LexTables
/-!
# Vore.Lemmas.LexTotal — the lexer never panics and always ends its token list with one EOF
-/
namespace Vore.Lex
open Vore Vore.ExtractedLex

theorem read_pos_ge (r : Reader) : r.pos ≤ r.read.2.pos := by
  obtain ⟨rest, pos, last⟩ := r
  cases rest <;> simp [Reader.read]

theorem read_pos_succ (r : Reader) (h : r.read.1 ≠ 0) : r.read.2.pos = r.pos + 1 := by
  obtain ⟨rest, pos, last⟩ := r
  cases rest with
  | nil => simp [Reader.read] at h
  | cons c cs => simp [Reader.read]

/-- a `read` that delivers a byte pushes a position: the `unread_last()` that follows finds one to pop -/
theorem read_pos_pos (r : Reader) (h : r.read.1 ≠ 0) : 1 ≤ r.read.2.pos :=
  read_pos_succ r h ▸ Nat.le_add_left 1 r.pos

theorem unreadBreak_done (s : St) (buf : Bytes) (r : Reader) (h : 1 ≤ r.read.2.pos) :
    unreadBreak s buf r.read.2 = .done s buf ⟨r.rest, r.read.2.pos - 1, none⟩ := by
  rw [unreadBreak_read, if_neg (Nat.ne_of_gt h)]

/-- `HexToAscii` is only called on what `IsHex` has let through -/
theorem readEscape_isSome (c : UInt8) (r : Reader) : (readEscape c r).isSome := by
  rcases readEscape_cases c r with ⟨a, b, zs, -, -, ha, hb, he⟩ | ⟨l, hl⟩
  · rw [he, Option.isSome_map]; exact hexToAscii_isSome a b ha hb
  · rw [hl]; rfl

theorem regexpBranch_ok (buf : Bytes) (r : Reader) (h : 1 ≤ r.pos) :
    ∃ s' buf' r', regexpBranch buf r = .done s' buf' r' ∧ s' ≠ .start := by
  unfold regexpBranch
  simp only
  split
  · exact ⟨_, _, _, unreadBreak_done .error buf r (Nat.le_trans h (read_pos_ge r)), by simp⟩
  · obtain ⟨s', buf', r', h', hs, -⟩ := regexpBody_done buf r.read.2.pos r.read.2.rest
    exact ⟨s', buf', r', h', hs⟩

/-- **the loop never panics and never ends in SSTART** (entered in SSTART, or later with at least
one position on the stack above the initial one) -/
theorem loop_ok (s : St) (buf : Bytes) (r : Reader) (hpos : s = .start ∨ 1 ≤ r.pos) :
    ∃ s' buf' r', loop s buf r = .done s' buf' r' ∧ s' ≠ .start := by
  fun_induction loop s buf r with
  | case1 => exact ⟨_, _, _, rfl, nofun⟩
  | case2 s buf r _ hs =>
    exact ⟨_, _, _, unreadBreak_done s buf r (Nat.le_trans (hpos.resolve_left hs) (read_pos_ge r)), hs⟩
  | case3 s _ r h0 _ _ _ ih => exact ih (.inr (read_pos_pos r h0))
  | case4 s buf r _ a w hstep => exact ⟨_, _, _, rfl, step_brk_ne_start hstep⟩
  | case5 s buf r h0 a hstep =>
    exact ⟨_, _, _, unreadBreak_done a buf r (read_pos_pos r h0), step_unread_ne_start hstep⟩
  | case6 s _ r _ _ _ he => simpa [he] using readEscape_isSome r.read.1 r.read.2
  | case7 s _ r h0 _ _ _ _ he ih =>
    obtain ⟨n, -, hp⟩ := readEscape_some he
    exact ih (.inr (hp ▸ Nat.le_add_right_of_le (read_pos_pos r h0)))
  | case8 s buf r h0 => exact regexpBranch_ok buf r.read.2 (read_pos_pos r h0)

theorem getNextToken_ok (r : Reader) :
    (∃ t r', getNextToken r = .tok t r') ∨ (∃ e a b, getNextToken r = .err e a b) := by
  obtain ⟨s', buf', r', hl, hs⟩ := loop_ok .start [] r (Or.inl rfl)
  unfold getNextToken
  rw [hl]
  simp only
  cases hf : finalAct s' buf' with
  | panic => exact absurd hf (finalAct_ne_panic s' buf' hs)
  | tok k => exact Or.inl ⟨_, _, rfl⟩
  | err e => exact Or.inr ⟨_, _, _, rfl⟩

theorem getTokens_ok (r : Reader) :
    (∃ ts, getTokens r = .tokens ts ∧ (∃ pre e, ts = pre ++ [e] ∧ e.kind = .eof ∧ ∀ t ∈ pre, t.kind ≠ .eof) ∧
        ts.length ≤ r.rest.length + 1) ∨
    (∃ e a b, getTokens r = .lexError e a b) := by
  fun_induction getTokens r with
  | case1 r m h =>
    rcases getNextToken_ok r with ⟨t, r', ht⟩ | ⟨e, a, b, he⟩
    · cases ht.symm.trans h
    · cases he.symm.trans h
  | case2 r e a b => exact Or.inr ⟨e, a, b, rfl⟩
  | case3 r t _ _ hk =>
    exact Or.inl ⟨[t], rfl, ⟨[], t, rfl, hk, by simp⟩, by simp⟩
  | case4 r t r' h hk ih =>
    rcases ih with ⟨ts, hts, ⟨pre, e, hpre, he, hno⟩, hlen⟩ | ⟨e, a, b, he⟩
    · have hpre' : ∀ x ∈ t :: pre, x.kind ≠ .eof := List.forall_mem_cons.mpr ⟨hk, hno⟩
      refine Or.inl ⟨t :: ts, by rw [hts]; rfl, ⟨t :: pre, e, by rw [hpre]; rfl, he, hpre'⟩, ?_⟩
      -- one token more than from `r'`, which has at least one byte less
      exact Nat.succ_le_succ (Nat.le_trans hlen (getNextToken_progress r t r' h hk))
    · exact Or.inr ⟨e, a, b, by rw [he]; rfl⟩

end Vore.Lex

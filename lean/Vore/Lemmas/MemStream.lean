import Vore.Model.MemStream
/-!
# Vore.Lemmas.MemStream — the memory stream refines the abstract write (C06, C09)

`Inv`: `len ≤ cap` and the part of the backing array beyond `len` is zero.  Every `Write` from a state with `Inv`
succeeds (neither reslice can panic), keeps `Inv`, and changes the contents exactly as `Vore.writeAt` says (a state
with `Inv` is its contents followed by zeros, `inv_iff`; `Write` is computed once on that form, `write_canon`); hence
every history of `WriteAt` calls with non-negative offsets ends without a panic with contents = the `writeAt` fold.
-/
namespace Vore.MS

def Inv (s : MemStream) : Prop :=
  s.len ≤ s.arr.length ∧ s.arr.drop s.len = List.replicate (s.arr.length - s.len) 0

theorem inv_new : Inv new := by simp [Inv, new]

theorem inv_iff (s : MemStream) : Inv s ↔ ∃ C k p, s = ⟨C ++ List.replicate k 0, C.length, p⟩ := by
  constructor
  · intro h
    refine ⟨s.contents, s.arr.length - s.len, s.pos, ?_⟩
    have hC : s.contents.length = s.len := by simp [MemStream.contents, Nat.min_eq_left h.1]
    have := List.take_append_drop s.len s.arr
    rw [h.2] at this
    rw [hC, MemStream.contents, this]
  · rintro ⟨C, k, p, rfl⟩
    simp [Inv]

theorem contents_canon (C : Bytes) (k p : Nat) : (⟨C ++ List.replicate k 0, C.length, p⟩ : MemStream).contents = C := by
  simp [MemStream.contents]

theorem writeAt_length (C : Bytes) (pos : Nat) (buf : Bytes) :
    (writeAt C pos buf).length = max (pos + buf.length) C.length := by
  simp only [writeAt, List.length_append, List.length_take, List.length_replicate, List.length_drop]
  -- the part before `buf` has length `pos`, whether `C` reaches that far or is padded; then `a - b + b = max a b`
  -- (`omega` closes this too, but is slow on the `min`, the `max` and the two truncated subtractions together)
  rw [Nat.add_comm (min _ _), Nat.sub_add_min_cancel, Nat.add_comm _ (_ - _), Nat.sub_add_eq_max, Nat.max_comm]

/-- writing inside a zero-padded array is the zero-padded abstract write -/
theorem splice_zeros (C : Bytes) (k pos : Nat) (buf : Bytes) (hk : pos + buf.length ≤ C.length + k) :
    (C ++ List.replicate k 0).take pos ++ buf ++ (C ++ List.replicate k 0).drop (pos + buf.length) =
      writeAt C pos buf ++ List.replicate (k - (pos + buf.length - C.length)) (0 : UInt8) := by
  simp only [writeAt, List.take_append, List.drop_append, List.take_replicate, List.drop_replicate, List.append_assoc]
  rw [Nat.min_eq_left (by omega)]

theorem write_canon (C : Bytes) (k pos : Nat) (buf : Bytes) :
    ∃ k', write ⟨C ++ List.replicate k 0, C.length, pos⟩ buf =
      .ok ⟨writeAt C pos buf ++ List.replicate k' 0, (writeAt C pos buf).length, pos + buf.length⟩ := by
  -- after the (possible) growth the array is again `C ++ zeros`, long enough for the reslice
  obtain ⟨k1, harr1, hk1⟩ : ∃ k1,
      (if pos + buf.length > (C ++ List.replicate k 0).length then
        (C ++ List.replicate k 0).take C.length ++ List.replicate (2 * (pos + buf.length) - C.length) 0
       else C ++ List.replicate k 0) = C ++ List.replicate k1 0 ∧ pos + buf.length ≤ C.length + k1 := by
    split
    · exact ⟨_, by rw [List.take_left], by omega⟩
    · next hle => exact ⟨k, rfl, by simpa using hle⟩
  refine ⟨k1 - (pos + buf.length - C.length), ?_⟩
  have hwl := writeAt_length C pos buf
  have he : pos + buf.length ≤ (writeAt C pos buf).length := hwl ▸ Nat.le_max_left _ _
  have hL : (if pos + buf.length > C.length then pos + buf.length else C.length) = (writeAt C pos buf).length := by
    rw [hwl]
    split
    · next h => exact (Nat.max_eq_left (Nat.le_of_lt h)).symm
    · next h => exact (Nat.max_eq_right (Nat.le_of_not_gt h)).symm
  have hp1 : ¬ (pos + buf.length > C.length ∧ pos + buf.length > (C ++ List.replicate k1 (0 : UInt8)).length) := by
    simp only [List.length_append, List.length_replicate]; omega
  have hp2 : ¬ pos > (writeAt C pos buf).length := Nat.not_lt.mpr (Nat.le_trans (Nat.le_add_right _ _) he)
  unfold write
  simp only [harr1, hL, hp1, hp2, if_false, Nat.min_eq_right (Nat.le_sub_of_add_le' he), List.take_length]
  rw [splice_zeros C k1 pos buf hk1]

theorem write_ok (s : MemStream) (buf : Bytes) (h : Inv s) :
    ∃ s', write s buf = .ok s' ∧ Inv s' ∧ s'.contents = writeAt s.contents s.pos buf ∧
      s'.pos = s.pos + buf.length ∧ s'.len = max (s.pos + buf.length) s.len := by
  obtain ⟨C, k, p, rfl⟩ := (inv_iff s).mp h
  obtain ⟨k', hw⟩ := write_canon C k p buf
  exact ⟨_, hw, (inv_iff _).mpr ⟨_, _, _, rfl⟩, by rw [contents_canon, contents_canon], rfl, writeAt_length C p buf⟩

theorem inv_seek (s : MemStream) (off : Int) (wh : Nat) (h : Inv s) : Inv ((seek s off wh).getD s) := by
  -- `Inv` does not mention `pos`
  unfold seek
  split <;> exact h

/-- `Writer.WriteAt` with a non-negative offset: never a panic, the abstract write -/
theorem writerWriteAt_ok (s : MemStream) (off : Nat) (data : Bytes) (h : Inv s) :
    ∃ s', writerWriteAt s (off : Int) data = .ok s' ∧ Inv s' ∧ s'.contents = writeAt s.contents off data ∧
      s'.pos = off + data.length := by
  have hs : seek s (off : Int) 0 = some { s with pos := off } := by
    simp [seek, seekPos]
  obtain ⟨s', h1, h2, h3, h4, _⟩ := write_ok { s with pos := off } data h
  exact ⟨s', by simp [writerWriteAt, hs, h1], h2, h3, h4⟩

/-- what `out` becomes under the `WriteAt(offset, data)` calls of the list, in order, each an abstract `writeAt` -/
def foldWrites : Bytes → List (Nat × Bytes) → Bytes
  | out, [] => out
  | out, (off, data) :: rest => foldWrites (writeAt out off data) rest

/-- every history of `WriteAt` calls with non-negative offsets, from any state with `Inv`, leaves the `writeAt` fold -/
theorem runOps_writes (ws : List (Nat × Bytes)) : ∀ (s : MemStream), Inv s →
    ∃ s', runOps s (ws.map (fun w => Op.writeAt (w.1 : Int) w.2)) = .ok s' ∧ Inv s' ∧
      s'.contents = foldWrites s.contents ws := by
  induction ws with
  | nil => intro s h; exact ⟨s, rfl, h, rfl⟩
  | cons w rest ih =>
    intro s h
    obtain ⟨s1, h1, hi1, hc1, _⟩ := writerWriteAt_ok s w.1 w.2 h
    obtain ⟨s2, h2, hi2, hc2⟩ := ih s1 hi1
    refine ⟨s2, ?_, hi2, ?_⟩
    · simp only [List.map_cons, runOps, h1]; exact h2
    · rw [hc2, hc1]; rfl

/-- bare `Seek`s (any whence, any offset, failed ones included) and bare `Write`s keep `Inv` too: no history of calls
of the three methods panics -/
theorem runOps_never_panics : ∀ (ops : List Op) (s : MemStream), Inv s →
    (∀ op ∈ ops, match op with | .writeAt off _ => 0 ≤ off | _ => True) →
    ∃ s', runOps s ops = .ok s' ∧ Inv s' := by
  intro ops
  induction ops with
  | nil => intro s h _; exact ⟨s, rfl, h⟩
  | cons op rest ih =>
    intro s h hops
    obtain ⟨hop, hrest⟩ := List.forall_mem_cons.mp hops
    cases op with
    | writeAt off data =>
      obtain ⟨n, rfl⟩ := Int.eq_ofNat_of_zero_le hop
      obtain ⟨s1, h1, hi1, _, _⟩ := writerWriteAt_ok s n data h
      simp only [runOps, h1]
      exact ih s1 hi1 hrest
    | seek off wh => exact ih _ (inv_seek s off wh h) hrest
    | write data =>
      obtain ⟨s1, h1, hi1, _, _⟩ := write_ok s data h
      simp only [runOps, h1]
      exact ih s1 hi1 hrest

/-- the `WriteAt(offset, data)` calls of the copy loop of `searchReplace`, in order, with the two offsets it ends with -/
def spliceCalls (text : Bytes) : List Match → (lastReader writerOff : Nat) → List (Nat × Bytes) × Nat × Nat
  | [], lr, wo => ([], lr, wo)
  | m :: ms, lr, wo =>
    let len := m.startPos - lr
    let rep := m.replacement.getD []
    let r := spliceCalls text ms (lr + len + m.value.length) (wo + len + rep.length)
    ((wo, readAt text lr len) :: (wo + len, rep) :: r.1, r.2.1, r.2.2)

/-- all `WriteAt` calls of one `searchReplace` (the unmatched tail last, if there is one) -/
def writerCalls (text : Bytes) (ms : List Match) : List (Nat × Bytes) :=
  let r := spliceCalls text ms 0 0
  if r.2.1 < text.length then r.1 ++ [(r.2.2, readAt text r.2.1 (text.length - r.2.1))] else r.1

theorem foldWrites_append (out : Bytes) (a b : List (Nat × Bytes)) :
    foldWrites out (a ++ b) = foldWrites (foldWrites out a) b := by
  induction a generalizing out with
  | nil => rfl
  | cons w rest ih => simp only [List.cons_append, foldWrites]; exact ih _

theorem spliceLoop_eq (text : Bytes) : ∀ (ms : List Match) (lr wo : Nat) (out : Bytes),
    spliceLoop text ms lr wo out =
      (foldWrites out (spliceCalls text ms lr wo).1, (spliceCalls text ms lr wo).2.1, (spliceCalls text ms lr wo).2.2) := by
  intro ms
  induction ms with
  | nil => intro lr wo out; rfl
  | cons m ms ih =>
    intro lr wo out
    simp only [spliceLoop, spliceCalls, foldWrites]
    rw [ih]

/-- what the model of `searchReplace` writes is the abstract fold over exactly these `WriteAt` calls -/
theorem writtenText_eq_fold (text : Bytes) (ms : List Match) :
    writtenText text ms = foldWrites [] (writerCalls text ms) := by
  unfold writtenText writerCalls
  rw [spliceLoop_eq]
  simp only []
  split
  · rw [foldWrites_append]; rfl
  · rfl

end Vore.MS

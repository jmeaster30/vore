import Vore.Model.SchedGo
/-!
# Vore.Lemmas.SchedGo — from the extracted access classes to the discipline of the model (C19)
-/
namespace Vore.Sched

/-- `ActionAllowed` is written action by action; the access discipline asks location by location -/
theorem ActionAllowed.of_target {cls : List GClass} {as : List Action} {t : Tid} {pc : Nat} {a : Action} {g : Loc}
    (h : ActionAllowed cls as t pc a) (hg : a.target = some g) :
    match (generalizing := false) g with
    | .global i => cls[i]? ≠ none ∧ ∀ m, cls[i]? = some (.locked m) →
        heldAt as m pc = true ∧ (a.isWrite = false → freshAt as (.global i) m pc = true)
    | .priv o _ => o = t
    | .code _ => a.isWrite = false
    | .randSrc => a.isRmw = true ∧ heldAt as randMutex pc = true := by
  cases a with
  | read _ _ | write _ _ | rmw _ _ =>
    cases hg
    cases g with
    | global i =>
      simp only [ActionAllowed] at h ⊢
      split at h
      · next hc => rw [hc]; exact ⟨nofun, nofun⟩
      · next m hc =>
        rw [hc]
        exact ⟨nofun, fun m' hm => by cases hm; simpa [Action.isWrite] using h⟩
      · exact h.elim
    | _ => simp [ActionAllowed, Action.isWrite, Action.isRmw] at h ⊢ <;> exact h
  | _ => cases hg

theorem GoCalls.not_written_code {cls : List GClass} {P : Tid → List Action} (h : GoCalls cls P) (k : Nat) :
    ¬ Written P (.code k) :=
  fun ⟨t, n, a, ha, hg, hwr⟩ => Bool.false_ne_true (((h t n a ha).of_target hg).symm.trans hwr)

/-- calls that touch no `free` package-level variable satisfy the hypotheses of
`C19_noninterference`: call-private memory is confined, the program is read-only, the random
source is lock protected (blind), a `locked m` variable is lock protected by `m` -/
theorem goCalls_discipline (cls : List GClass) (hcls : ∀ c ∈ cls, c ≠ GClass.free)
    (P : Tid → List Action) (h : GoCalls cls P) :
    WellLocked P ∧ ∀ g, Written P g → Confined P g ∨ LockProtected P g := by
  refine ⟨fun t n m ha => h t n _ ha, fun g hw => ?_⟩
  cases g with
  | global i =>
    obtain ⟨t0, n0, a0, ha0, hg0, _⟩ := hw
    match hc : cls[i]? with
    | none => exact absurd hc ((h t0 n0 a0 ha0).of_target hg0).1
    | some .free => exact absurd rfl (hcls _ (List.mem_of_getElem? hc))
    | some (.locked m) =>
      exact .inr ⟨m, fun t n a ha hg => (((h t n a ha).of_target hg).2 m hc).1,
        .inr fun t n a ha hg => (((h t n a ha).of_target hg).2 m hc).2⟩
  | priv o k => exact .inl ⟨o, fun t n a ha hg => ((h t n a ha).of_target hg).symm⟩
  | code k => exact absurd hw (h.not_written_code k)
  | randSrc =>
    exact .inr ⟨randMutex, fun t n a ha hg => ((h t n a ha).of_target hg).2,
      .inl fun t n a ha hg => ((h t n a ha).of_target hg).1⟩

theorem forall_getElem?_cons {α} {x : α} {l : List α} {Q : Nat → α → Prop} :
    (∀ pc a, (x :: l)[pc]? = some a → Q pc a) ↔ Q 0 x ∧ ∀ pc a, l[pc]? = some a → Q (pc + 1) a :=
  ⟨fun h => ⟨h 0 x rfl, fun pc a ha => h (pc + 1) a ha⟩,
   fun h pc a ha => match pc, ha with
    | 0, ha => Option.some.inj ha ▸ h.1
    | pc + 1, ha => h.2 pc a ha⟩

theorem goCalls_below {cls : List GClass} {k : Nat} {prog : Tid → List Action}
    (h : ∀ t, ∀ pc a, (prog t)[pc]? = some a → ActionAllowed cls (prog t) t pc a) :
    GoCalls cls fun t => if t < k then prog t else [] := by
  intro t pc a ha
  by_cases ht : t < k
  · simp only [ht, if_true] at ha ⊢
    exact h t pc a ha
  · simp [ht] at ha

end Vore.Sched

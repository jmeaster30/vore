import Vore.Lemmas.Outs
/-!
# Vore.Lemmas.SpecTotal — the specification always answers (for every `e`; `m` is the semantics of the call-free ones)

With loop fuel `lf > |text|` the semantics `m` never runs out of fuel: an optional iteration
must consume, and what is consumed is bounded by the text.  So `m` offers its continuation a finite list
of good data (`m_visits`), and answers when the continuations do.  Together with the simulation this is
C10 on the call-free fragment.  The scan then answers too, and the same as the scan that takes the head of
`outs` at each start position (`findAll_eq_decl`).
-/
namespace Vore
open Vore.Spec

section
variable {text : Bytes} {p0 : Nat} {Q : Option SRes → Prop}

def KsOk (text : Bytes) (p0 : Nat) (Q : Option SRes → Prop) (len : Nat) (ks : SK) : Prop :=
  ∀ d' fk', Good text p0 d' → len ≤ d'.cur.length → Q (fk' ()) → Q (ks d' fk')

theorem KsOk.mono {len len' : Nat} {ks : SK} (h : KsOk text p0 Q len ks) (hle : len ≤ len') :
    KsOk text p0 Q len' ks :=
  fun d' fk' hg hl hq => h d' fk' hg (Nat.le_trans hle hl) hq

/-- the computation `r` — a matcher applied to its data — answers when its continuations do, the success continuation
being asked only about good data at least as long as `len` -/
def TotalFrom (text : Bytes) (p0 : Nat) (Q : Option SRes → Prop) (len : Nat) (r : SK → FK → Option SRes) : Prop :=
  ∀ ks fk, KsOk text p0 Q len ks → Q (fk ()) → Q (r ks fk)

theorem VisitsAt.total {len : Nat} {r : SK → FK → Option SRes} {l : List Data} (h : VisitsAt text p0 len r l) :
    TotalFrom text p0 Q len r := by
  intro ks fk hks hfk
  obtain ⟨hall, heq⟩ := h
  rw [heq]
  clear heq
  induction l with
  | nil => exact hfk
  | cons d rest ih =>
    have hd := List.forall_mem_cons.mp hall
    exact hks d _ hd.1.1 hd.1.2 (ih hd.2)

section
variable {len len' : Nat} {r r1 r2 : SK → FK → Option SRes}

theorem TotalFrom.mono (h : TotalFrom text p0 Q len r) (hle : len' ≤ len) : TotalFrom text p0 Q len' r :=
  fun ks fk hks hfk => h ks fk (hks.mono hle) hfk

theorem TotalFrom.nil : TotalFrom text p0 Q len (fun _ fk => fk ()) := VisitsAt.nil.total

theorem TotalFrom.pure {d : Data} (hg : Good text p0 d) (hle : len ≤ d.cur.length) :
    TotalFrom text p0 Q len (fun ks fk => ks d fk) := (VisitsAt.pure hg hle).total

theorem TotalFrom.ite {c : Prop} [Decidable c] (h1 : c → TotalFrom text p0 Q len r1) (h2 : ¬c → TotalFrom text p0 Q len r2) :
    TotalFrom text p0 Q len (fun ks fk => if c then r1 ks fk else r2 ks fk) := by
  by_cases hc : c
  · simp only [hc, if_true]; exact h1 hc
  · simp only [hc, if_false]; exact h2 hc

theorem TotalFrom.append (h1 : TotalFrom text p0 Q len r1) (h2 : TotalFrom text p0 Q len r2) :
    TotalFrom text p0 Q len (fun ks fk => r1 ks (fun _ => r2 ks fk)) :=
  fun ks fk hks hfk => h1 ks _ hks (h2 ks fk hks hfk)

theorem TotalFrom.bind {mb : Data → SK → FK → Option SRes} (h : TotalFrom text p0 Q len r)
    (hb : ∀ d1, Good text p0 d1 → len ≤ d1.cur.length → TotalFrom text p0 Q len' (mb d1)) :
    TotalFrom text p0 Q len' (fun ks fk => r (fun d1 fk1 => mb d1 ks fk1) fk) :=
  fun ks fk hks hfk => h _ fk (fun d1 fk1 hg1 hle hq => hb d1 hg1 hle ks fk1 hks hq) hfk

end

end

def Answers (text : Bytes) (pos : Nat) (r : Option SRes) : Prop :=
  ∃ s, r = some s ∧ ∀ d, s = .matched d → Good text pos d

theorem TotalFrom.answers {text : Bytes} {pos len : Nat} {r : SK → FK → Option SRes}
    (h : TotalFrom text pos (Answers text pos) len r) :
    Answers text pos (r (fun d _ => some (.matched d)) (fun _ => some .fail)) :=
  h _ _ (fun d' _ hg' _ _ => ⟨.matched d', rfl, fun d hd => by cases hd; exact hg'⟩) ⟨.fail, rfl, fun _ hd => nomatch hd⟩

theorem attempt_total (text : Bytes) (lf : Nat) (hlf : text.length < lf) (e : Expr)
    (pos line col : Nat) (hpos : pos ≤ text.length) : Answers text pos (attempt text lf e pos line col) :=
  (m_visits lf hlf e ⟨pos, line, col, [], .nil⟩ ⟨hpos, rfl⟩).total.answers

/-- the scan answers when every attempt does and reports only matches within the text, and it answers the same
with any attempt function that agrees at the start positions inside the text -/
theorem scanAllWith_answers (text : Bytes) (att1 att2 : Nat → Nat → Nat → Option SRes)
    (hatt : ∀ pos line col, pos ≤ text.length →
      Answers text pos (att1 pos line col) ∧ att2 pos line col = att1 pos line col) :
    ∀ f acc pos line col, pos < text.length → text.length - pos < f →
      ∃ A, scanAllWith text att1 f acc pos line col = some A ∧ scanAllWith text att2 f acc pos line col = some A := by
  intro f
  induction f with
  | zero => intro acc pos line col _ h; omega
  | succ f ih =>
    intro acc pos line col hpos hf
    obtain ⟨⟨s, hs, hgood⟩, h12⟩ := hatt pos line col (Nat.le_of_lt hpos)
    -- wherever the scan goes on, it is further right and still inside the text: the rest of the fuel suffices
    have hnext : ∀ acc' pos' line' col', pos < pos' → pos' < text.length → ∃ A,
        scanAllWith text att1 f acc' pos' line' col' = some A ∧ scanAllWith text att2 f acc' pos' line' col' = some A :=
      fun _ _ _ _ hlt hin => ih _ _ _ _ hin (by omega)
    have hstep : ∃ A, scanAllWith.step1 text att1 f acc pos line col = some A ∧
        scanAllWith.step1 text att2 f acc pos line col = some A := by
      unfold scanAllWith.step1
      split
      · by_cases hend : pos + 1 ≥ text.length
        · simp only [hend, if_true]
          exact ⟨acc, rfl, rfl⟩
        · simp only [hend, if_false]
          split <;> exact hnext _ _ _ _ (Nat.lt_succ_self pos) (Nat.lt_of_not_ge hend)
      · exact ⟨acc, rfl, rfl⟩
    unfold scanAllWith
    rw [h12, hs]
    cases s with
    | fail => exact hstep
    | matched d =>
      by_cases hne : (d.cur.length != 0) = true
      · have hne' : d.cur.length ≠ 0 := by simpa using hne
        have hd : d.pos = pos + d.cur.length := (hgood d rfl).2
        by_cases hend : d.pos ≥ text.length
        · simp only [hne, hend, if_true]
          exact ⟨_, rfl, rfl⟩
        · simp only [hne, hend, if_true, if_false]
          exact hnext _ _ _ _ (by omega) (Nat.lt_of_not_ge hend)
      · simp only [hne]
        exact hstep

/-- `find all e`, declaratively: scan left to right; at each start position take the head of the list of all
matches in priority order; report it if it is non-empty and continue at its end, otherwise advance one byte -/
def Spec.findAllDecl (text : Bytes) (e : Expr) : Option (List Match) :=
  if text.length = 0 then some []
  else scanAllWith text (fun pos line col => some (attemptOuts text (text.length + 2) e pos line col))
    (text.length + 1) [] 0 1 1

theorem findAll_answers (text : Bytes) (e : Expr) :
    ∃ A, findAll text e = some A ∧ Spec.findAllDecl text e = some A := by
  unfold findAll Spec.findAllDecl scanAll
  split
  · exact ⟨[], rfl, rfl⟩
  · exact scanAllWith_answers text _ _ (fun pos line col hpos => ⟨attempt_total text _ (by omega) e pos line col hpos,
      (attempt_eq_head text _ (by omega) e pos line col hpos).symm⟩) (text.length + 1) [] 0 1 1 (by omega) (by omega)

theorem findAll_total (text : Bytes) (e : Expr) : findAll text e ≠ none := by
  obtain ⟨A, hA, _⟩ := findAll_answers text e
  simp [hA]

/-- the specification the VM is proved against is this declarative reading -/
theorem findAll_eq_decl (text : Bytes) (e : Expr) : findAll text e = Spec.findAllDecl text e := by
  obtain ⟨A, h1, h2⟩ := findAll_answers text e
  rw [h1, h2]

end Vore

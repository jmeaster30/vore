import Vore.Spec.ParserGrammar
/-!
# Vore.Lemmas.GrammarMono — the grammar-level parser does not depend on its fuel once it suffices

`Le g g'`: `g` ran out of fuel, or `g = g'`.  Every grammar function is monotone in its fuel
argument(s) for this order; hence two runs that both finish agree (`pCmds_det`).

`Le` is a congruence for the combinators the grammar is written in (`le_bind`, `le_next`, `le_gNumber`,
`le_ite`); the monotonicity of a function is the term that follows its body down to the recursive calls.
-/
namespace Vore.Grammar
open Vore Vore.Parser

def Le {α : Type} (g g' : GR α) : Prop := g = .fuel ∨ g = g'

theorem le_refl {α : Type} (g : GR α) : Le g g := Or.inr rfl
theorem le_fuel {α : Type} (g : GR α) : Le .fuel g := Or.inl rfl

theorem le_bind {α β : Type} {g g' : GR α} {K K' : α → List STok → GR β}
    (h : Le g g') (hk : ∀ v r, Le (K v r) (K' v r)) : Le (g.bind K) (g'.bind K') := by
  rcases h with rfl | rfl
  · exact le_fuel _
  · cases g with
    | ok v r => exact hk v r
    | err => exact le_refl _
    | fuel => exact le_fuel _

theorem le_next {β : Type} {l : List STok} {K K' : STok → List STok → GR β}
    (hk : ∀ t r, Le (K t r) (K' t r)) : Le (next l K) (next l K') := by
  cases l with
  | nil => exact le_refl _
  | cons t r => exact hk t r

theorem le_gNumber {β : Type} {t : STok} {K K' : Int → GR β}
    (hk : ∀ v, Le (K v) (K' v)) : Le (gNumber t K) (gNumber t K') := by
  unfold gNumber
  split
  · split
    · exact le_refl _
    · exact hk _
  · exact le_refl _

theorem le_ite {α : Type} {c : Prop} [Decidable c] {a a' b b' : GR α}
    (h1 : Le a a') (h2 : Le b b') : Le (if c then a else b) (if c then a' else b') := by
  split
  · exact h1
  · exact h2

theorem le_bind_same {α β : Type} {g g' : GR α} {K : α → List STok → GR β} (h : Le g g') :
    Le (g.bind K) (g'.bind K) :=
  le_bind h fun _ _ => le_refl _

theorem pInRest_mono : ∀ {n n' : Nat}, n ≤ n' → ∀ l, Le (pInRest n l) (pInRest n' l)
  | 0, _, _, _ => le_fuel _
  | n + 1, n' + 1, h, l => by
    have ih := pInRest_mono (Nat.le_of_succ_le_succ h)
    rw [pInRest, pInRest]
    exact le_next fun _ r => le_ite (le_bind (le_refl _) fun _ r' => le_bind_same (ih r')) (le_refl _)

theorem pIn_mono {n n' : Nat} (hn : n ≤ n') (neg : Bool) (l : List STok) : Le (pIn n neg l) (pIn n' neg l) :=
  le_next fun _ _ => le_bind (le_refl _) fun _ r' => le_bind_same (pInRest_mono hn r')

theorem pAtomList_mono : ∀ {n n' : Nat}, n ≤ n' → ∀ l, Le (pAtomList n l) (pAtomList n' l)
  | 0, _, _, _ => le_fuel _
  | n + 1, n' + 1, h, l => by
    have ih := pAtomList_mono (Nat.le_of_succ_le_succ h)
    rw [pAtomList, pAtomList]
    exact le_bind (le_refl _) fun _ r => le_next fun _ _ => le_ite (le_refl _) (le_bind_same (ih r))

variable {rx : Bytes → RegexOutcome}

structure MonoE (rx : Bytes → RegexOutcome) (f f' : Nat) : Prop where
  expr : ∀ l, Le (pExpression rx f l) (pExpression rx f' l)
  at_ : ∀ l, Le (pAt rx f l) (pAt rx f' l)
  between : ∀ l, Le (pBetween rx f l) (pBetween rx f' l)
  exactly : ∀ l, Le (pExactly rx f l) (pExactly rx f' l)
  maybe : ∀ l, Le (pMaybe rx f l) (pMaybe rx f' l)
  notE : ∀ l, Le (pNotExpression rx f l) (pNotExpression rx f' l)
  lit : ∀ l, Le (pLiteral rx f l) (pLiteral rx f' l)
  dec : ∀ l, Le (pPrimaryOrDec rx f l) (pPrimaryOrDec rx f' l)
  oror : ∀ l, Le (pPrimaryOrOr rx f l) (pPrimaryOrOr rx f' l)
  list : ∀ stop l, Le (pExprList rx stop f l) (pExprList rx stop f' l)
  paren : ∀ l, Le (pSubExpression rx f l) (pSubExpression rx f' l)
  curly : ∀ l, Le (pSubroutine rx f l) (pSubroutine rx f' l)

theorem expr_mono : ∀ {f f' : Nat}, f ≤ f' → MonoE rx f f'
  | 0, _, _ => by constructor <;> intros <;> exact le_fuel _
  | f + 1, f' + 1, h => by
    have hf := Nat.le_of_succ_le_succ h
    have I : MonoE rx f f' := expr_mono hf
    exact {
      expr := fun l => by
        rw [pExpression, pExpression]
        exact le_next fun _ _ => le_ite (I.at_ l) <| le_ite (I.between l) <| le_ite (I.exactly l) <|
          le_ite (I.maybe l) <| le_ite (pIn_mono hf false l) <| le_ite (I.curly l) <| le_ite (I.notE l) <|
          le_ite (le_refl _) <| le_ite (I.dec l) (le_refl _)
      at_ := fun l => by
        rw [pAt, pAt]
        exact le_next fun _ _ => le_next fun _ _ => le_ite
          (le_next fun _ r2 => le_gNumber fun _ => le_bind_same (I.expr r2)) (le_refl _)
      between := fun l => by
        rw [pBetween, pBetween]
        exact le_next fun _ _ => le_next fun _ _ => le_gNumber fun _ => le_next fun _ _ => le_ite
          (le_next fun _ r3 => le_gNumber fun _ => le_bind_same (I.expr r3)) (le_refl _)
      exactly := fun l => by
        rw [pExactly, pExactly]
        exact le_next fun _ _ => le_next fun _ r1 => le_gNumber fun _ => le_bind_same (I.expr r1)
      maybe := fun l => by
        rw [pMaybe, pMaybe]
        exact le_next fun _ r => le_bind_same (I.expr r)
      notE := fun l => by
        rw [pNotExpression, pNotExpression]
        exact le_next fun _ r => le_next fun _ _ => le_ite (pIn_mono hf true r) (I.dec l)
      lit := fun l => by
        rw [pLiteral, pLiteral]
        exact le_next fun _ _ => le_ite (le_refl _) <| le_ite (le_refl _) <| le_ite (le_refl _) <|
          le_ite (I.paren l) (le_refl _)
      dec := fun l => by
        rw [pPrimaryOrDec, pPrimaryOrDec]
        exact le_bind (I.lit l) fun _ _ => le_next fun _ r1 => le_ite (le_refl _) <|
          le_ite (le_bind_same (I.oror r1)) (le_refl _)
      oror := fun l => by
        rw [pPrimaryOrOr, pPrimaryOrOr]
        exact le_bind (I.lit l) fun _ _ => le_next fun _ r1 =>
          le_ite (le_bind_same (I.oror r1)) (le_refl _)
      list := fun stop l => by
        rw [pExprList, pExprList]
        exact le_next fun _ _ => le_ite (le_refl _) <|
          le_bind (I.expr l) fun _ r => le_bind_same (I.list stop r)
      paren := fun l => by
        rw [pSubExpression, pSubExpression]
        exact le_next fun _ r => le_bind_same (I.list _ r)
      curly := fun l => by
        rw [pSubroutine, pSubroutine]
        exact le_next fun _ r => le_bind_same (I.list _ r) }

structure MonoS (f f' : Nat) : Prop where
  stmts : ∀ l, Le (pStatements f l) (pStatements f' l)
  stmt : ∀ l, Le (pStatement f l) (pStatement f' l)
  pif : ∀ l, Le (pProcessIf f l) (pProcessIf f' l)
  ploop : ∀ l, Le (pProcessLoop f l) (pProcessLoop f' l)

theorem stmt_mono : ∀ {f f' : Nat}, f ≤ f' → MonoS f f'
  | 0, _, _ => by constructor <;> intros <;> exact le_fuel _
  | f + 1, f' + 1, h => by
    have I : MonoS f f' := stmt_mono (Nat.le_of_succ_le_succ h)
    exact {
      stmts := fun l => by
        rw [pStatements, pStatements]
        exact le_bind (I.stmt l) fun os r => by
          cases os with
          | none => exact le_refl _
          | some s => exact le_bind_same (I.stmts r)
      stmt := fun l => by
        rw [pStatement, pStatement]
        exact le_next fun _ _ => le_ite (le_refl _) <| le_ite (le_bind_same (I.pif l)) <|
          le_ite (le_refl _) <| le_ite (le_refl _) <| le_ite (le_bind_same (I.ploop l)) (le_refl _)
      pif := fun l => by
        rw [pProcessIf, pProcessIf]
        exact le_next fun _ _ => le_bind (le_refl _) fun _ _ => le_next fun _ r2 => le_ite
          (le_bind (I.stmts r2) fun _ _ => le_next fun _ r4 => le_ite
            (le_bind_same (I.stmts r4)) (le_refl _))
          (le_refl _)
      ploop := fun l => by
        rw [pProcessLoop, pProcessLoop]
        exact le_next fun _ r => le_bind_same (I.stmts r) }

section cmds
variable {F F' : Nat} (hF : F ≤ F')
include hF

theorem pFind_mono (l : List STok) : Le (pFind rx F l) (pFind rx F' l) :=
  le_next fun _ _ => le_bind (le_refl _) fun _ r1 => le_bind_same ((expr_mono hF).list _ r1)

theorem pReplace_mono (l : List STok) : Le (pReplace rx F l) (pReplace rx F' l) :=
  le_next fun _ _ => le_bind (le_refl _) fun _ r1 => le_bind ((expr_mono hF).list _ r1) fun _ _ =>
    le_next fun _ r3 => le_ite (le_bind_same (pAtomList_mono hF r3)) (le_refl _)

theorem pSetTransform_mono (l : List STok) : Le (pSetTransform F l) (pSetTransform F' l) :=
  le_next fun _ _ => le_next fun _ _ => le_bind_same ((stmt_mono hF).stmts _)

theorem pSetPattern_mono (l : List STok) : Le (pSetPattern rx F l) (pSetPattern rx F' l) :=
  le_next fun _ r => le_bind ((expr_mono hF).list _ r) fun _ _ => le_next fun _ r2 =>
    le_ite (le_bind_same ((stmt_mono hF).stmts r2)) (le_refl _)

structure MonoC (rx : Bytes → RegexOutcome) (F F' f f' : Nat) : Prop where
  cmd : ∀ l, Le (pCommand rx F f l) (pCommand rx F' f' l)
  set : ∀ l, Le (pSet rx F f l) (pSet rx F' f' l)
  mat : ∀ l, Le (pSetMatches rx F f l) (pSetMatches rx F' f' l)

theorem cmd_mono : ∀ {f f' : Nat}, f ≤ f' → MonoC rx F F' f f'
  | 0, _, _ => by constructor <;> intros <;> exact le_fuel _
  | f + 1, f' + 1, h => by
    have I : MonoC rx F F' f f' := cmd_mono (Nat.le_of_succ_le_succ h)
    exact {
      cmd := fun l => by
        rw [pCommand, pCommand]
        exact le_next fun _ _ => le_ite (le_bind_same (pFind_mono hF l)) <|
          le_ite (le_bind_same (pReplace_mono hF l)) <|
          le_ite (le_bind_same (I.set l)) (le_refl _)
      set := fun l => by
        rw [pSet, pSet]
        exact le_next fun _ _ => le_next fun _ _ => le_ite
          (le_next fun _ r2 => le_ite
            (le_next fun _ _ => le_ite (le_bind_same (pSetPattern_mono hF r2)) <|
              le_ite (le_bind_same (I.mat r2)) <|
              le_ite (le_bind_same (pSetTransform_mono hF r2)) (le_refl _))
            (le_refl _))
          (le_refl _)
      mat := fun l => by
        rw [pSetMatches, pSetMatches]
        exact le_next fun _ r => le_bind_same (I.cmd r) }

theorem pCmds_mono : ∀ {n n' : Nat}, n ≤ n' → ∀ l, Le (pCmds rx F n l) (pCmds rx F' n' l)
  | 0, _, _, _ => le_fuel _
  | n + 1, n' + 1, h, l => by
    have ih := pCmds_mono (Nat.le_of_succ_le_succ h)
    rw [pCmds, pCmds]
    exact le_next fun _ _ => le_ite (le_refl _) <|
      le_bind ((cmd_mono hF hF).cmd l) fun _ r => le_bind_same (ih r)

end cmds

theorem pCmds_det {F F' n n' : Nat} (hF : F ≤ F') (hn : n ≤ n') {l : List STok}
    (hne : pCmds rx F n l ≠ .fuel) : pCmds rx F' n' l = pCmds rx F n l :=
  ((pCmds_mono hF hn l).resolve_left hne).symm

end Vore.Grammar

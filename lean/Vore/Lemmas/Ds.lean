import Vore.Model.Ds
/-!
# Vore.Lemmas.Ds — libvore/ds as written refines the list reading of the VM model
-/
namespace Vore.Ds

/-- the last `n` elements (all of them when there are fewer) -/
def lastN {α : Type} (n : Nat) (xs : List α) : List α := xs.drop (xs.length - n)

theorem lastN_of_length_le {α : Type} {n : Nat} {xs : List α} (h : xs.length ≤ n) : lastN n xs = xs := by
  rw [lastN, Nat.sub_eq_zero_of_le h, List.drop_zero]

theorem lastN_drop {α : Type} {n k : Nat} {xs : List α} (h : k ≤ xs.length - n) : lastN n (xs.drop k) = lastN n xs := by
  unfold lastN
  rw [List.drop_drop, List.length_drop, Nat.sub_right_comm, Nat.add_sub_cancel' h]

/-- cutting to the last `n` may be done before more elements arrive as well as after -/
theorem lastN_append_lastN {α : Type} (n : Nat) (xs ys : List α) : lastN n (lastN n xs ++ ys) = lastN n (xs ++ ys) := by
  have h : lastN n xs ++ ys = (xs ++ ys).drop (xs.length - n) :=
    (List.drop_append_of_le_length (Nat.sub_le _ _)).symm
  rw [h]
  apply lastN_drop
  rw [List.length_append]
  exact Nat.sub_le_sub_right (Nat.le_add_right _ _) n

theorem pop_cons {α : Type} (x : α) (xs : List α) : (⟨x :: xs⟩ : Queue α).pop = (some x, ⟨xs⟩) := rfl

theorem pop_nil {α : Type} : (⟨[]⟩ : Queue α).pop = (none, ⟨[]⟩) := rfl

theorem pop_store {α : Type} (q : Queue α) : q.pop.2.store = q.store.drop 1 := by
  cases q with | mk s => cases s <;> rfl

theorem limitLoop_store {α : Type} (bound : Nat) : ∀ (fuel : Nat) (q : Queue α), q.store.length ≤ fuel →
    (Queue.limitLoop fuel bound q).store = lastN bound q.store := by
  intro fuel
  induction fuel with
  | zero => intro q h; exact (lastN_of_length_le (Nat.le_trans h (Nat.zero_le _))).symm
  | succ fuel ih =>
    intro q h
    unfold Queue.limitLoop Queue.size
    split
    · next hgt =>
      -- the element that `Pop()` drops is not among the last `bound`
      rw [ih q.pop.2 (by rw [pop_store, List.length_drop]; omega), pop_store]
      exact lastN_drop (by omega)
    · next hle => exact (lastN_of_length_le (Nat.le_of_not_gt hle)).symm

/-- **`Limit`**: what is left are the last `uint64(amount)` elements (all of them when there are fewer) -/
theorem limit_store {α : Type} (q : Queue α) (amount : Int) : (q.limit amount).store = lastN (toU64 amount) q.store :=
  limitLoop_store (toU64 amount) q.size q (Nat.le_refl _)

theorem toU64_nat (n : Nat) : toU64 (n : Int) = n := by
  simp [toU64, show ¬ ((n : Int) < 0) by omega]

/-- a negative amount converts to a number no slice can exceed: nothing is dropped -/
theorem limit_negative {α : Type} (q : Queue α) (amount : Int) (h : amount < 0) (h64 : -9223372036854775808 ≤ amount)
    (hlen : q.store.length < 9223372036854775808) : (q.limit amount).store = q.store := by
  rw [limit_store]
  apply lastN_of_length_le
  simp only [toU64, h, if_true]
  omega

/-- any history of the `last n` window: `Push` with `Limit(n)` after every push leaves exactly the last `n`, in order -/
theorem push_limit_history {α : Type} (n : Nat) (ms : List α) :
    (ms.foldl (fun q m => (q.push m).limit (n : Int)) (Queue.new : Queue α)).store = lastN n ms := by
  -- generalised to a queue that holds the last `n` of what was pushed before
  suffices H : ∀ (pre : List α) (q : Queue α), q.store = lastN n pre →
      (ms.foldl (fun q m => (q.push m).limit (n : Int)) q).store = lastN n (pre ++ ms) from
    H [] Queue.new (lastN_of_length_le (Nat.zero_le n)).symm
  induction ms with
  | nil => intro pre q h; rw [List.append_nil]; exact h
  | cons m ms ih =>
    intro pre q h
    rw [List.foldl_cons, List.append_cons]
    exact ih (pre ++ [m]) _ (by rw [limit_store, toU64_nat, Queue.push, h, lastN_append_lastN])

theorem pop_push_front {α : Type} (q : Queue α) (v : α) : (q.pushFront v).pop = (some v, q) :=
  pop_cons v q.store

/-- pop `n` times, collecting what comes out (`none` = the queue was empty) -/
def Queue.popN {α : Type} : Nat → Queue α → List (Option α) × Queue α
  | 0, q => ([], q)
  | n + 1, q => let r := Queue.popN n q.pop.2; (q.pop.1 :: r.1, r.2)

theorem popN_store {α : Type} (xs : List α) (k : Nat) :
    Queue.popN (xs.length + k) (⟨xs⟩ : Queue α) = (xs.map some ++ List.replicate k none, ⟨[]⟩) := by
  induction xs with
  | nil =>
    simp only [List.length_nil, Nat.zero_add, List.map_nil, List.nil_append]
    induction k with
    | zero => rfl
    | succ k ih => simp only [Queue.popN, pop_nil, ih, List.replicate_succ]
  | cons x xs ih =>
    rw [List.length_cons, Nat.add_right_comm]
    simp only [Queue.popN, pop_cons, ih, List.map_cons, List.cons_append]

theorem foldl_push_queue {α : Type} (ys : List α) (q : Queue α) : (ys.foldl Queue.push q) = ⟨q.store ++ ys⟩ := by
  induction ys generalizing q with
  | nil => simp
  | cons y ys ih => simp [ih, Queue.push]

/-- first in, first out: after any `Push`es, as many `Pop`s return the pushed values in order and leave the queue empty;
further `Pop`s return `nil` and change nothing -/
theorem fifo {α : Type} (xs : List α) (k : Nat) :
    Queue.popN (xs.length + k) (xs.foldl Queue.push (Queue.new : Queue α)) =
      (xs.map some ++ List.replicate k none, ⟨[]⟩) := by
  rw [foldl_push_queue]
  exact popN_store xs k

/-! ## Stack: the store read from the top is a list with `push = cons`, `pop = head/tail` -/

def Stack.toList {α : Type} (s : Stack α) : List α := s.store.reverse

theorem toList_push {α : Type} (s : Stack α) (v : α) : (s.push v).toList = v :: s.toList := by
  simp [Stack.toList, Stack.push]

theorem peek_toList {α : Type} (s : Stack α) : s.peek = s.toList.head? := by
  unfold Stack.peek Stack.isEmpty Stack.toList
  rw [List.head?_reverse]
  cases s.store <;> simp

theorem pop_toList {α : Type} (s : Stack α) : s.pop.1 = s.toList.head? ∧ s.pop.2.toList = s.toList.tail := by
  unfold Stack.pop Stack.isEmpty Stack.toList
  rw [List.head?_reverse, List.tail_reverse]
  cases h : s.store with
  | nil => simp [h]
  | cons a l => simp [List.dropLast_eq_take]

theorem pop_push {α : Type} (s : Stack α) (v : α) : (s.push v).pop = (some v, s) := by
  simp [Stack.push, Stack.pop, Stack.isEmpty]

theorem foldl_push_stack {α : Type} (xs : List α) (s : Stack α) : xs.foldl Stack.push s = ⟨s.store ++ xs⟩ := by
  induction xs generalizing s with
  | nil => simp
  | cons x xs ih => simp [ih, Stack.push]

/-- **`Copy()`** yields an equal store — a value of its own in this model, as the fresh slice is in Go -/
theorem copy_eq {α : Type} (s : Stack α) : s.copy = s := by
  simp [Stack.copy, foldl_push_stack, Stack.new]

/-- `Index(i)` inside the bounds is the i-th element from the bottom, `nil` outside -/
theorem index_spec {α : Type} (s : Stack α) (i : Int) :
    s.index i = if 0 ≤ i ∧ i < s.store.length then s.store[i.toNat]? else none := by
  have hg : (s.isEmpty || decide (i < 0) || decide (i ≥ s.store.length)) = true ↔
      ¬ (0 ≤ i ∧ i < s.store.length) := by
    simp only [Stack.isEmpty, Bool.or_eq_true, beq_iff_eq, decide_eq_true_eq]
    omega
  simp only [Stack.index, hg, ite_not]

end Vore.Ds

import Vore.Spec.Typing
import Vore.Lemmas.TablesTie
import Vore.Lemmas.Assoc
/-!
# Vore.Lemmas.Typing — the checker (model + regenerated table) accepts exactly the documented typing
-/
namespace Vore
open Vore.Tables Vore.Extracted Vore.Spec Vore.Spec.Typing

theorem goTyping_bin_documented (l r : PT) (op : Op) :
    typeFromTable goTyping l r op = DocOps.binType l r op := by
  cases op with
  | other _ => cases l <;> cases r <;> rfl
  | _ => revert l r; decide +kernel

theorem goTyping_un_documented (t : PT) (op : Op) :
    unTypeFromTable goTyping t op = DocOps.unType t op := by
  cases op with
  | other _ => cases t <;> rfl
  | _ => revert t; decide +kernel

theorem goTyping_ret_documented (ctx : Ctx) (t : PT) :
    retFromTable goTyping ctx t = true ↔ returnAllowed ctx t := by
  cases ctx <;> cases t <;> simp [returnAllowed] <;> rfl

theorem binType_documented (l r : PT) (op : Op) : binType l r op = DocOps.binType l r op := by
  rw [binType_eq_table, goTyping_bin_documented]

theorem unType_documented (t : PT) (op : Op) : unType t op = DocOps.unType t op := by
  rw [unType_eq_table, goTyping_un_documented]

theorem retOK_documented (ctx : Ctx) (t : PT) : retOK ctx t = true ↔ returnAllowed ctx t := by
  rw [retOK_eq_table, goTyping_ret_documented]

theorem TEnv.get_put (Γ : TEnv) (x : String) (t : PT) (y : String) :
    (Γ.put x t).get y = if y = x then t else Γ.get y := by
  unfold TEnv.put TEnv.get
  rw [find?_cons_filter]
  by_cases h : y = x
  · simp [h]
  · simp [h, Ne.symm h]

theorem TEnv.get_put_fun (Γ : TEnv) (x : String) (t : PT) :
    (Γ.put x t).get = Env.update Γ.get x t :=
  funext (TEnv.get_put Γ x t)

theorem initTEnv_get : initTEnv.get = initEnv := by
  funext x
  simp only [initTEnv, TEnv.get, initEnv, List.find?_cons, List.find?_nil]
  grind

theorem typeOf_iff {Γ : TEnv} {e : PExpr} {t : PT} : typeOf Γ e = some t ↔ HasType Γ.get e t := by
  constructor
  · intro h
    induction e generalizing t with
    | str _ | num _ | bool _ | var _ => cases h; constructor
    | un op _ ih =>
      obtain ⟨te, he, hu⟩ := Option.bind_eq_some_iff.mp h
      exact .un (ih he) (unType_documented te op ▸ hu)
    | bin op _ _ ihl ihr =>
      simp only [typeOf] at h
      split at h
      · next tl tr hl hr => exact .bin (ihl hl) (ihr hr) (binType_documented tl tr op ▸ h)
      · cases h
  · intro h
    induction h with
    | un _ hu ih => simp [typeOf, ih, unType_documented, hu]
    | bin _ _ hb ihl ihr => simp [typeOf, ihl, ihr, binType_documented, hb]
    | _ => rfl

theorem wt_of_checkStmt (ctx : Ctx) {s : Stmt} {i j : TInfo} (h : checkStmt ctx s i = some j) :
    WT ctx i.inLoop i.env.get s j.env.get ∧ j.inLoop = i.inLoop := by
  induction s generalizing i j with
  | skip => cases h; exact ⟨.skip, rfl⟩
  | seq _ _ iha ihb =>
    obtain ⟨k, ha, hb⟩ := Option.bind_eq_some_iff.mp h
    obtain ⟨wa, ea⟩ := iha ha
    obtain ⟨wb, eb⟩ := ihb hb
    exact ⟨.seq wa (ea ▸ wb), eb.trans ea⟩
  | set _ _ =>
    obtain ⟨t, he, rfl⟩ := Option.map_eq_some_iff.mp h
    exact ⟨TEnv.get_put_fun .. ▸ .set (typeOf_iff.mp he), rfl⟩
  | ret _ =>
    simp only [checkStmt] at h
    split at h
    · cases h
    · next t he =>
      obtain ⟨hok, hj⟩ := Option.ite_none_right_eq_some.mp h
      cases hj
      exact ⟨.ret (typeOf_iff.mp he) ((retOK_documented ctx t).mp hok), rfl⟩
  | ite _ _ _ iht ihf =>
    simp only [checkStmt] at h
    split at h
    · next hc =>
      obtain ⟨k, ha, hb⟩ := Option.bind_eq_some_iff.mp h
      obtain ⟨wa, ea⟩ := iht ha
      obtain ⟨wb, eb⟩ := ihf hb
      exact ⟨.ite (typeOf_iff.mp hc) wa (ea ▸ wb), eb.trans ea⟩
    · cases h
  | debug _ =>
    obtain ⟨t, he, rfl⟩ := Option.map_eq_some_iff.mp h
    exact ⟨.debug (typeOf_iff.mp he), rfl⟩
  | loop _ ih =>
    obtain ⟨k, hb, rfl⟩ := Option.map_eq_some_iff.mp h
    exact ⟨.loop (ih hb).1, rfl⟩
  | cont | brk =>
    obtain ⟨hl, hj⟩ := Option.ite_none_right_eq_some.mp h
    cases hj
    exact ⟨hl ▸ by constructor, rfl⟩

theorem checkStmt_of_wt (ctx : Ctx) {b : Bool} {G G' : Env} {s : Stmt} (w : WT ctx b G s G') :
    ∀ i : TInfo, i.env.get = G → i.inLoop = b →
      ∃ j, checkStmt ctx s i = some j ∧ j.env.get = G' ∧ j.inLoop = b := by
  induction w with
  | seq _ _ ih1 ih2 =>
    intro i hG hb
    obtain ⟨k, hk, gk, bk⟩ := ih1 i hG hb
    obtain ⟨j, hj, gj, bj⟩ := ih2 k gk bk
    exact ⟨j, by simp [checkStmt, hk, hj], gj, bj⟩
  | @set _ _ x _ t he =>
    rintro i rfl hb
    exact ⟨{ i with env := i.env.put x t }, by simp [checkStmt, typeOf_iff.mpr he], TEnv.get_put_fun .., hb⟩
  | @ret _ _ _ t he hr =>
    rintro i rfl hb
    exact ⟨i, by simp [checkStmt, typeOf_iff.mpr he, (retOK_documented ctx t).mpr hr], rfl, hb⟩
  | ite hc _ _ ih1 ih2 =>
    rintro i rfl hb
    obtain ⟨k, hk, gk, bk⟩ := ih1 i rfl hb
    obtain ⟨j, hj, gj, bj⟩ := ih2 k gk bk
    exact ⟨j, by simp [checkStmt, typeOf_iff.mpr hc, hk, hj], gj, bj⟩
  | debug he =>
    rintro i rfl hb
    exact ⟨i, by simp [checkStmt, typeOf_iff.mpr he], rfl, hb⟩
  | loop _ ih =>
    intro i hG hb
    obtain ⟨k, hk, gk, _⟩ := ih { i with inLoop := true } hG rfl
    exact ⟨{ k with inLoop := i.inLoop }, by simp [checkStmt, hk], gk, hb⟩
  | _ => intro i hG hb; exact ⟨i, by simp [checkStmt, hb], hG, hb⟩

end Vore

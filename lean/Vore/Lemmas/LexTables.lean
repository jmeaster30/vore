import Vore.Model.Lexer
import Vore.Spec.StringLit
/-!
# Vore.Lemmas.LexTables — the regenerated lexer tables say what the documentation says

Every theorem here is re-checked against `Vore/ExtractedLex.lean` as regenerated from the current Go
source; a one-token edit of the keyword switch, `getEscapedRune`, `IsHex`, the final switch or an
`unread(n)` call changes a definition these proofs are about.
-/
namespace Vore.Lex
open Vore Vore.ExtractedLex

/-- the final switch as the proofs read it; `goFinal_spec` re-checks on every run that the table
extracted from the Go source says the same (in any order of the `case`s) -/
def finalSpec : St → Option FinalAct
  | .start => none
  | .whitespace => some (.tok .ws)
  | .stringDouble | .stringSingle | .stringDEscape | .stringSEscape => some (.err .unendingString)
  | .stringEnd => some (.tok .string)
  | .number => some (.tok .number)
  | .equal1 => some (.tok .equal)
  | .dequal => some (.tok .dequal)
  | .excl | .colon | .error => some (.err .unknownToken)
  | .nequal => some (.tok .nequal)
  | .coloneq => some (.tok .coloneq)
  | .identifier => some .keywords
  | .comma => some (.tok .comma)
  | .openparen => some (.tok .openparen)
  | .closeparen => some (.tok .closeparen)
  | .opencurly => some (.tok .opencurly)
  | .closecurly => some (.tok .closecurly)
  | .comment | .commentStart | .blockCommentFinal => some (.tok .comment)
  | .blockComment | .blockCommentStartEnd | .blockCommentEndEnd => some (.err .unendingBlockComment)
  | .dash => some (.tok .minus)
  | .operator | .operatorStart => some .operators
  | .regexp => some (.tok .regexp)
  | .regexpUnending => some (.err .unendingRegexp)
  | .end_ => some (.tok .eof)

/-- every state other than SSTART has a `case` in the final switch, with the documented result -/
theorem goFinal_spec (s : St) : goFinal.lookup s = finalSpec s := by
  have : ∀ s ∈ St.all, goFinal.lookup s = finalSpec s := by decide +kernel
  exact this s (St.mem_all s)

/-- the model knows every state of the Go lexer, in the same order -/
theorem goStates_spec : goStates = St.all := by decide

/-- bufio can take back one rune: no `unread(n)` with `n > 1` (the model's `unreadLast` is `unread(1)`) -/
theorem goUnreads_single : ∀ n ∈ goUnreads, n = 1 := by decide

/-- keywords are looked up on the lower-cased lexeme -/
theorem goKeywordsLower_true : goKeywordsLower = true := by decide

theorem goKeywords_kind : ∀ p ∈ goKeywords, p.2 ∉ [.eof, .ws, .comment] := by decide
theorem goOperators_no_eof : ∀ p ∈ goOperators, p.2 ≠ .eof := by decide

/-- every key of the keyword switch is already lower case (so no case is dead) -/
theorem goKeywords_keys_lower : ∀ p ∈ goKeywords, p.1.map asciiLower = p.1 := by decide

theorem lookup_mem {α β : Type} [BEq α] [LawfulBEq α] {k : α} {l : List (α × β)} {v : β} (h : l.lookup k = some v) :
    (k, v) ∈ l := by
  obtain ⟨l₁, l₂, rfl, _⟩ := List.lookup_eq_some_iff.mp h
  simp

theorem kwLookup_kind (buf : Bytes) : kwLookup buf ∉ [.eof, .ws, .comment] := by
  unfold kwLookup
  cases h : goKeywords.lookup (kwKey buf) with
  | none => simp
  | some v => exact goKeywords_kind _ (lookup_mem h)

/-- only SEND yields the EOF token -/
theorem finalAct_eof (s : St) (buf : Bytes) (h : finalAct s buf = .tok .eof) : s = .end_ := by
  unfold finalAct at h
  rw [goFinal_spec] at h
  cases s <;> simp [finalSpec] at h <;> try rfl
  case identifier => exact absurd (kwLookup_kind buf) (by simp [h])
  case operator | operatorStart =>
    cases hk : goOperators.lookup buf with
    | none => simp [hk] at h
    | some k =>
      simp [hk] at h
      exact absurd h (goOperators_no_eof _ (lookup_mem hk))

/-- the final switch panics (`default: panic("Unknown final state")`) only in SSTART -/
theorem finalAct_ne_panic (s : St) (buf : Bytes) (hs : s ≠ .start) : finalAct s buf ≠ .panic := by
  unfold finalAct
  rw [goFinal_spec]
  cases s <;> simp [finalSpec] at hs ⊢
  case operator | operatorStart => split <;> simp

theorem finalAct_of_spec {s : St} {buf : Bytes} {k : Tok} (h : finalSpec s = some (.tok k)) :
    finalAct s buf = .tok k := by
  unfold finalAct; rw [goFinal_spec, h]

theorem finalAct_err_of_spec (s : St) (buf : Bytes) (e : ErrKind) (h : finalSpec s = some (.err e)) :
    finalAct s buf = .err e := by
  unfold finalAct; rw [goFinal_spec, h]

theorem finalAct_identifier (buf : Bytes) : finalAct .identifier buf = .tok (kwLookup buf) := by
  unfold finalAct; rw [goFinal_spec]; rfl

theorem finalAct_operator {s : St} {buf : Bytes} {k : Tok} (hs : finalSpec s = some .operators)
    (h : goOperators.lookup buf = some k) : finalAct s buf = .tok k := by
  unfold finalAct; rw [goFinal_spec, hs]; simp only [h]

/-- the letters of the named escapes `\n \t \r \a \b \f \v` -/
def escapeLetters : List UInt8 := [110, 116, 114, 97, 98, 102, 118]

theorem docEscape_isSome {c : UInt8} (h : (docEscape c).isSome) : c ∈ escapeLetters := by
  refine Decidable.byContradiction fun hne => ?_
  simp only [escapeLetters, List.mem_cons, List.not_mem_nil, or_false, not_or] at hne
  simp [docEscape, hne] at h

/-- `getEscapedRune` is the documented escape table, and the identity elsewhere -/
theorem getEscapedRune_spec : ∀ c : UInt8, getEscapedRune c = (docEscape c).getD c := by
  intro c
  -- every row of the extracted chain is a documented escape, and every documented escape letter has a row
  have hrows : ∀ p ∈ goEscapes, docEscape p.1 = some p.2 := by decide
  have hkeys : ∀ k ∈ escapeLetters, (goEscapes.lookup k).isSome := by decide
  unfold getEscapedRune
  cases hl : goEscapes.lookup c with
  | some v => rw [hrows _ (lookup_mem hl)]
  | none =>
    cases hd : docEscape c with
    | none => rfl
    | some v => have := hkeys c (docEscape_isSome (by simp [hd])); simp [hl] at this

/-- `IsHex` accepts exactly the hexadecimal digits -/
theorem isHex_spec : ∀ c : UInt8, isHex c = (hexVal c).isSome := by
  intro c
  -- the extracted ranges are, as a set, the three of `hexVal`
  have h1 : ∀ p ∈ goHexRanges, p ∈ [((48 : UInt8), (57 : UInt8)), (97, 102), (65, 70)] := by decide
  have h2 : ∀ p ∈ [((48 : UInt8), (57 : UInt8)), (97, 102), (65, 70)], p ∈ goHexRanges := by decide
  have : isHex c = [((48 : UInt8), (57 : UInt8)), (97, 102), (65, 70)].any (fun p => p.1 ≤ c && c ≤ p.2) := by
    rw [Bool.eq_iff_iff, isHex, List.any_eq_true, List.any_eq_true]
    exact ⟨fun ⟨p, hp, h⟩ => ⟨p, h1 p hp, h⟩, fun ⟨p, hp, h⟩ => ⟨p, h2 p hp, h⟩⟩
  simp [this, hexVal, apply_ite Option.isSome]

/-- the model's reading of `strconv.ParseInt(_, 16, _)` on one digit is the specification's -/
theorem hexDigitVal_eq_hexVal (c : UInt8) : hexDigitVal c = hexVal c := rfl

theorem hexToAscii_spec (a b : UInt8) (ha : (hexVal a).isSome) (hb : (hexVal b).isSome) :
    hexToAscii a b = some ((hexVal a).getD 0 * 16 + (hexVal b).getD 0) := by
  unfold hexToAscii
  rw [hexDigitVal_eq_hexVal, hexDigitVal_eq_hexVal]
  cases hx : hexVal a <;> cases hy : hexVal b <;> simp_all

/-- `HexToAscii` cannot panic on what `IsHex` lets through -/
theorem hexToAscii_isSome (a b : UInt8) (ha : isHex a = true) (hb : isHex b = true) : (hexToAscii a b).isSome := by
  rw [isHex_spec] at ha hb
  rw [hexToAscii_spec a b ha hb]; rfl

end Vore.Lex

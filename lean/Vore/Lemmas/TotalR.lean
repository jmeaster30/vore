import Vore.Lemmas.GenR
import Vore.Lemmas.SpecTotal
/-!
# Vore.Lemmas.TotalR — the specification answers for programs without unguarded recursion (C10, stage 2)

`Spec.mrN` bounds the nesting depth of subroutine calls by `cf`.  This file shows that a bound of
`(|text| + 1) * R` is never exhausted when every call is **guarded** — something that must consume
at least one byte stands between the entry of the enclosing subroutine body and the call — or goes
to a subroutine of strictly smaller rank (`R` bounds the ranks; a non-recursive program can be
ranked by its call graph).  The measure is lexicographic: (text left at the entry of the current
body, rank of the current body).  A guarded call shrinks the first component, an unguarded one keeps
it and shrinks the second.
-/
namespace Vore
open Vore.Spec

/-- every way `e` can match consumes at least one byte (conservative) -/
def mc : RExpr → Bool
  | .empty => false
  | .seq a b => mc a || mc b
  | .atom a => atomConsumes a
  | .backref _ => false
  | .call _ _ => false
  | .star _ _ _ => false
  | .branch l r => mc l && mc r
  | .dec _ b => mc b
  | .sub _ _ b _ => mc b
  | .inl false items => items.all atomConsumes
  | .inl true _ => true

/-- every call in `e` has a target and is guarded (`g`: something was consumed since the enclosing
body was entered) or goes to a subroutine of rank below `r` -/
def okCalls (ρ : Procs) (rk : Nat → Nat) : Bool → Nat → RExpr → Bool
  | _, _, .empty => true
  | g, r, .seq a b => okCalls ρ rk g r a && okCalls ρ rk (g || mc a) r b
  | _, _, .atom _ => true
  | _, _, .backref _ => true
  | g, r, .call _ id => (ρ.find id).isSome && (g || decide (rk id < r))
  | g, r, .star _ _ body => okCalls ρ rk g r body
  | g, r, .branch l r' => okCalls ρ rk g r l && okCalls ρ rk g r r'
  | g, r, .dec _ b => okCalls ρ rk g r b
  | g, r, .sub _ _ b _ => okCalls ρ rk g r b
  | _, _, .inl _ _ => true

/-- the predicate of a pattern evaluates (process code may loop or panic; `.skip` always evaluates) -/
def predTotal (pf : Nat) (pred : Stmt) : Prop := ∀ d, (predHolds pf pred d).isSome = true

theorem predTotal_of_beq {pf : Nat} {pred : Stmt} (h : (pred == .skip) = true) : predTotal pf pred := by
  intro d; simp [predHolds, h]

theorem predTotal_skip (pf : Nat) : predTotal pf .skip := predTotal_of_beq rfl

def predsOK (pf : Nat) : RExpr → Prop
  | .seq a b => predsOK pf a ∧ predsOK pf b
  | .star _ _ body => predsOK pf body
  | .branch l r => predsOK pf l ∧ predsOK pf r
  | .dec _ b => predsOK pf b
  | .sub _ _ b pred => predTotal pf pred ∧ predsOK pf b
  | _ => True

section
variable {text : Bytes} {p0 : Nat} {Q : Option SRes → Prop}

theorem TotalFrom.withPred {pf : Nat} {pred : Stmt} (hp : predTotal pf pred) {len : Nat} {r : SK → FK → Option SRes}
    (h : TotalFrom text p0 Q len r) : TotalFrom text p0 Q len (fun ks fk => r (withPred pf pred ks) fk) := by
  refine fun ks fk hks hfk => h _ fk (fun d' fk' hg hl hq => ?_) hfk
  obtain ⟨b, hb⟩ := Option.isSome_iff_exists.mp (hp d')
  unfold Spec.withPred
  rw [hb]
  cases b with
  | true => exact hks d' fk' hg hl hq
  | false => exact hq

theorem loopV_total_from {mb : Data → SK → FK → Option SRes} (lo : Nat)
    (hb : ∀ d, Good text p0 d → lo ≤ d.cur.length → TotalFrom text p0 Q d.cur.length (mb d))
    (mx : Int) (fewest : Bool) :
    ∀ fuel k d, Good text p0 d → lo ≤ d.cur.length → text.length - d.cur.length < fuel →
      TotalFrom text p0 Q d.cur.length (loopV mb mx fewest fuel k d)
  | 0, _, _, _, _, hlt => by omega
  | fuel + 1, k, d, hg, hlo, hlt => by
    -- one more pass through the body; from each of its successes that consumed, the head again
    have hmore : TotalFrom text p0 Q d.cur.length (fun ks fk => mb d (fun d' fk' =>
        if d'.cur.length == d.cur.length then fk' () else loopV mb mx fewest fuel (k + 1) d' ks fk') fk) := by
      refine (hb d hg hlo).bind (fun d1 hg1 hle => .ite (fun _ => .nil) fun hne => ?_)
      have hlt1 : d.cur.length < d1.cur.length := Nat.lt_of_le_of_ne hle fun h => hne (beq_iff_eq.mpr h.symm)
      have hlen1 := good_len hg1
      exact (loopV_total_from lo hb mx fewest fuel (k + 1) d1 hg1 (by omega) (by omega)).mono hle
    exact .ite (fun _ => .ite (fun _ => (TotalFrom.pure hg (Nat.le_refl _)).append hmore)
      fun _ => hmore.append (.pure hg (Nat.le_refl _))) fun _ => .nil

/-- the budget `B` covers the calls that `okCalls ρ rk g r` admits once the data has length `len`: a guarded call
to any subroutine (ranks are below `R`), an unguarded one to a subroutine of rank below `r` -/
def Budget (text : Bytes) (R B : Nat) (g : Bool) (r len : Nat) : Prop :=
  (text.length - len) * R + (bif g then R else r) ≤ B

theorem Budget.mono {text : Bytes} {R B : Nat} {g : Bool} {r len len' : Nat} (h : Budget text R B g r len)
    (hle : len ≤ len') : Budget text R B g r len' :=
  Nat.le_trans (Nat.add_le_add_right (Nat.mul_le_mul_right R (Nat.sub_le_sub_left hle _)) _) h

/-- consuming more keeps the budget; consuming at least one byte (`s`) pays for a guarded call -/
theorem Budget.step {text : Bytes} {R B : Nat} {g s : Bool} {r len len' : Nat} (h : Budget text R B g r len)
    (hle : len + s.toNat ≤ len') (hlen : len' ≤ text.length) : Budget text R B (g || s) r len' := by
  cases s with
  | false => rw [Bool.or_false]; exact h.mono hle
  | true =>
    have hle : len + 1 ≤ len' := hle
    have hlt : text.length - len' + 1 ≤ text.length - len := by omega
    refine Nat.le_trans ?_ h
    rw [Bool.or_true, cond_true, ← Nat.succ_mul]
    exact Nat.le_trans (Nat.mul_le_mul_right R hlt) (Nat.le_add_right _ _)

/-- what the budget buys: a guarded call is paid by the `R` held in reserve, an unguarded one by `k < r` -/
theorem Budget.call {text : Bytes} {R B : Nat} {g : Bool} {r len k : Nat} (h : Budget text R B g r len) (hk : k < R)
    (hg : g = true ∨ k < r) : (text.length - len) * R + k < B := by
  refine Nat.lt_of_lt_of_le (Nat.add_lt_add_left ?_ _) h
  cases g with
  | true => exact hk
  | false => exact hg.resolve_left Bool.false_ne_true

/-- a program whose calls are all guarded or rank-decreasing, with evaluating predicates -/
structure GuardedP (pf : Nat) (ρ : Procs) (rk : Nat → Nat) (R : Nat) : Prop where
  procs : ∀ id x body pred, ρ.find id = some (x, body, pred) →
    predTotal pf pred ∧ rk id < R ∧ predsOK pf body ∧ okCalls ρ rk false (rk id) body = true

theorem mrWith_total (lf pf : Nat) (hlf : text.length < lf) (ρ : Procs) (rk : Nat → Nat) (R B : Nat)
    (callK : RExpr → Data → SK → FK → Option SRes)
    -- what `callK` must deliver: called bodies answer while the budget `B` lasts
    (hc : ∀ id x body pred, ρ.find id = some (x, body, pred) → ∀ d, Good text p0 d →
      (text.length - d.cur.length) * R + rk id < B → TotalFrom text p0 Q d.cur.length (callK body d))
    (hρ : ∀ id x body pred, ρ.find id = some (x, body, pred) → predTotal pf pred ∧ rk id < R) :
    ∀ e, predsOK pf e → ∀ g r d, okCalls ρ rk g r e = true → Good text p0 d → Budget text R B g r d.cur.length →
      TotalFrom text p0 Q (d.cur.length + (mc e).toNat) (mrWith text lf pf ρ callK e d) := by
  intro e hp g r d hok hg hB
  induction e generalizing g d with
  | empty => exact .pure hg (Nat.le_refl _)
  | seq a b iha ihb =>
    simp only [okCalls, Bool.and_eq_true] at hok
    refine (iha hp.1 g d hok.1 hg hB).bind (fun d' hg' hle' =>
      (ihb hp.2 (g || mc a) d' hok.2 hg' (hB.step hle' (good_len hg'))).mono ?_)
    simp only [mc]
    revert hle'
    cases mc a with
    | false => exact fun hle' => Nat.add_le_add_right hle' _
    | true => exact fun hle' => Nat.le_trans hle' (Nat.le_add_right _ _)
  | atom a => exact (VisitsAt.ofOption (fun d' h => (advS_atom h).good hg)).total
  | backref x => exact (VisitsAt.ofOption (fun d' h => (adv_backref h).good hg)).total
  | call x id =>
    simp only [okCalls, Bool.and_eq_true, Bool.or_eq_true, decide_eq_true_eq] at hok
    obtain ⟨⟨y, body, pred⟩, hf⟩ := Option.isSome_iff_exists.mp hok.1
    obtain ⟨hpt, hrk⟩ := hρ id y body pred hf
    intro ks fk hks hfk
    simp only [mrWith, hf]
    exact (hc id y body pred hf d hg (hB.call hrk hok.2)).withPred hpt ks fk hks hfk
  | star mx fewest body ih =>
    refine loopV_total_from d.cur.length (fun d1 hg1 hlo => ?_) mx fewest lf 0 d hg (Nat.le_refl _) (by omega)
    exact (ih hp g d1 hok hg1 (hB.mono hlo)).mono (Nat.le_add_right _ _)
  | branch l r' ihl ihr =>
    simp only [okCalls, Bool.and_eq_true] at hok
    have hmc : (mc (.branch l r')).toNat ≤ (mc l).toNat ∧ (mc (.branch l r')).toNat ≤ (mc r').toNat := by
      simp only [mc]
      cases mc l <;> cases mc r' <;> simp
    exact ((ihl hp.1 g d hok.1 hg hB).mono (Nat.add_le_add_left hmc.1 _)).append
      ((ihr hp.2 g d hok.2 hg hB).mono (Nat.add_le_add_left hmc.2 _))
  | dec x body ih => exact (ih hp g d hok hg hB).bind (fun d' hg' hle' => .pure (d := bindD d' x _) hg' hle')
  | sub id x body pred ih => exact (ih hp.2 g d hok hg hB).withPred hp.1
  | inl neg items =>
    cases neg with
    | false => exact (inAlts_visits items (fun h => List.all_eq_true.mp h) hg).total
    | true =>
      refine .ite (fun _ => .nil) fun _ => .ite (fun _ => .nil) fun hne => ?_
      -- the position moved, so what was consumed is not empty
      have hadv : AdvS text true d (consumeD text d (listMaxSize items).toNat) :=
        ⟨_, rfl, fun _ h0 => hne (by simp [consumeD, h0])⟩
      exact .pure (hadv.good hg).1 (hadv.good hg).2

theorem mrN_total (lf pf : Nat) (hlf : text.length < lf) (ρ : Procs) (rk : Nat → Nat) (R : Nat)
    (hG : GuardedP pf ρ rk R) :
    ∀ cf e, predsOK pf e → ∀ g r d, okCalls ρ rk g r e = true → Good text p0 d → Budget text R cf g r d.cur.length →
      TotalFrom text p0 Q (d.cur.length + (mc e).toNat) (mrN text lf pf ρ cf e d) := by
  have hρ : ∀ id x body pred, ρ.find id = some (x, body, pred) → predTotal pf pred ∧ rk id < R :=
    fun id x body pred h => ⟨(hG.procs id x body pred h).1, (hG.procs id x body pred h).2.1⟩
  intro cf
  induction cf with
  | zero => exact mrWith_total lf pf hlf ρ rk R 0 _ (fun _ _ _ _ _ _ _ hlt => absurd hlt (Nat.not_lt_zero _)) hρ
  | succ cf ih =>
    refine mrWith_total lf pf hlf ρ rk R (cf + 1) _ (fun id x body pred hf d1 hg1 hlt => ?_) hρ
    obtain ⟨-, -, hpb, hokb⟩ := hG.procs id x body pred hf
    exact (ih body hpb false (rk id) d1 hokb hg1 (Nat.le_of_lt_succ hlt)).mono (Nat.le_add_right _ _)

end

/-- every attempt answers within the call-depth bound `(|text| + 1) * R` -/
theorem attemptR_total (text : Bytes) (lf pf cf : Nat) (hlf : text.length < lf) (e : RExpr) (rk : Nat → Nat) (R : Nat)
    (hG : GuardedP pf (procsOf e) rk R) (hpe : predsOK pf e) (hok : okCalls (procsOf e) rk false R e = true)
    (hcf : (text.length + 1) * R ≤ cf) (pos line col : Nat) (hpos : pos ≤ text.length) :
    Answers text pos (attemptR text lf pf cf e pos line col) :=
  mrN_total lf pf hlf (procsOf e) rk R hG cf e hpe false R ⟨pos, line, col, [], .nil⟩ hok ⟨hpos, rfl⟩
    (by rw [Nat.add_one_mul] at hcf; exact hcf) |>.answers

theorem findAllR_total (text : Bytes) (pf cf : Nat) (e : RExpr) (rk : Nat → Nat) (R : Nat)
    (hG : GuardedP pf (procsOf e) rk R) (hpe : predsOK pf e) (hok : okCalls (procsOf e) rk false R e = true)
    (hcf : (text.length + 1) * R ≤ cf) : ∃ A, findAllR text pf cf e = some A := by
  unfold findAllR
  split
  · exact ⟨[], rfl⟩
  · obtain ⟨A, hA, _⟩ := scanAllWith_answers text (attemptR text (text.length + 2) pf cf e) _ (fun pos line col hpos =>
      ⟨attemptR_total text _ pf cf (by omega) e rk R hG hpe hok hcf pos line col hpos, rfl⟩)
      (text.length + 1) [] 0 1 1 (by omega) (by omega)
    exact ⟨A, hA⟩

def predFreeB : RExpr → Bool
  | .seq a b => predFreeB a && predFreeB b
  | .star _ _ body => predFreeB body
  | .branch l r => predFreeB l && predFreeB r
  | .dec _ b => predFreeB b
  | .sub _ _ b pred => pred == .skip && predFreeB b
  | _ => true

theorem predsOK_of_predFreeB (pf : Nat) : ∀ e, predFreeB e = true → predsOK pf e := by
  intro e
  induction e with
  | seq a b iha ihb | branch a b iha ihb =>
    intro h; simp only [predFreeB, Bool.and_eq_true] at h; exact ⟨iha h.1, ihb h.2⟩
  | star _ _ b ih | dec _ b ih => exact ih
  | sub id x b pred ih =>
    intro h; simp only [predFreeB, Bool.and_eq_true] at h
    exact ⟨predTotal_of_beq h.1, ih h.2⟩
  | _ => intro _; trivial

def rkOf (ranks : List (Nat × Nat)) (id : Nat) : Nat := ((ranks.find? (·.1 == id)).map (·.2)).getD 0

/-- `r` has no unguarded recursion, as witnessed by the rank table (ranks below `R`); no predicates -/
def guardedB (r : RExpr) (ranks : List (Nat × Nat)) (R : Nat) : Bool :=
  predFreeB r && okCalls (procsOf r) (rkOf ranks) false R r &&
  (procsOf r).all (fun ent => decide (rkOf ranks ent.1 < R) && ent.2.2.2 == .skip && predFreeB ent.2.2.1 &&
    okCalls (procsOf r) (rkOf ranks) false (rkOf ranks ent.1) ent.2.2.1)

theorem guardedB_sound (pf : Nat) (r : RExpr) (ranks : List (Nat × Nat)) (R : Nat) (h : guardedB r ranks R = true) :
    GuardedP pf (procsOf r) (rkOf ranks) R ∧ predsOK pf r ∧ okCalls (procsOf r) (rkOf ranks) false R r = true := by
  simp only [guardedB, Bool.and_eq_true, List.all_eq_true, decide_eq_true_eq] at h
  obtain ⟨⟨hpf, hok⟩, hall⟩ := h
  refine ⟨⟨fun id x body pred hf => ?_⟩, predsOK_of_predFreeB pf r hpf, hok⟩
  obtain ⟨⟨⟨hrk, hskip⟩, hfree⟩, hokb⟩ := hall _ (Procs.mem_of_find hf)
  exact ⟨predTotal_of_beq hskip, hrk, predsOK_of_predFreeB pf body hfree, hokb⟩

end Vore

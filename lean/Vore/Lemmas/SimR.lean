import Vore.Lemmas.Sim
import Vore.Lemmas.GenR
/-!
# Vore.Lemmas.SimR — the VM running generated code realises the backtracking semantics (C01)

`SimF`: for every resolved expression `e` placed at absolute offset `off` in any program and any stacks `(L, V, C)`,
a success continuation `ks` realised from `off + lenR e` gives the continuation `fun d fk => mrN … e d ks fk` realised
from `off` with the *same* stacks (`KOk` to `KOk`): whatever the specification returns, the VM returns.
By induction on the syntax tree (`simR_step`), inside an induction on the call-depth fuel of the specification
(`simR_all`).  Invariants of the stacks: `LsOk L C n` (the loops on the stack are unnamed; those of the current call
level have ids `≥ n`, the id counter *after* the code being run: `genR` numbers a loop after its body, so a loop
already entered has a larger id than every loop inside it and the head never takes a first entry for a re-entry;
loops of outer activations are told apart by their call level) and `TopOk` (the innermost active subroutine starts
before the code being run, so `VALIDATECALL` pushes a frame exactly when a subroutine node is entered by falling
into it).  The call-free fragment of stage 1 is the image of `unroll` (`Lemmas/Unroll.lean`).
-/
namespace Vore
open Vore.Spec

def LsOk (L : List LoopSt) (C : List CallSt) (n : Nat) : Prop :=
  ∀ l ∈ L, l.name = "" ∧ l.callLevel ≤ C.length ∧ (l.callLevel = C.length → n ≤ l.id)

theorem LsOk.mono {L C n n'} (h : LsOk L C n) (hn : n' ≤ n) : LsOk L C n' :=
  fun l hl => ⟨(h l hl).1, (h l hl).2.1, fun he => Nat.le_trans hn ((h l hl).2.2 he)⟩

/-- entering a deeper call level: nothing on the loop stack belongs to it -/
theorem LsOk.push {L C n} (h : LsOk L C n) {c : CallSt} {n' : Nat} : LsOk L (c :: C) n' :=
  fun l hl => ⟨(h l hl).1, Nat.le_succ_of_le (h l hl).2.1, fun he => by
    have := (h l hl).2.1; rw [List.length_cons] at he; omega⟩

/-- entering the loop with id `n`: its state goes on top -/
theorem LsOk.cons {L C n} (h : LsOk L C (n + 1)) (k : Nat) (d : Data) (vars : VMap) :
    LsOk (loopAt n C k d vars :: L) C n := by
  intro l hl
  rcases List.mem_cons.mp hl with rfl | hl
  · exact ⟨rfl, Nat.le_refl _, fun _ => Nat.le_refl _⟩
  · exact (h.mono (Nat.le_succ n)) l hl

def TopOk (C : List CallSt) (off : Nat) : Prop := ∀ c, C.head? = some c → c.id < off

theorem TopOk.mono {C off off'} (h : TopOk C off) (hle : off ≤ off') : TopOk C off' :=
  fun c hc => Nat.lt_of_lt_of_le (h c hc) hle

theorem TopOk.push {p ret : Nat} {C : List CallSt} : TopOk (⟨p, ret⟩ :: C) (p + 1) :=
  fun c hc => by cases hc; exact Nat.lt_succ_self p

section
variable {pf : Nat} {prog : List Instr} {text : Bytes} {lf : Nat} {pcOf : Nat → Nat} {ρ : Procs}

def SimF (pf : Nat) (prog : List Instr) (text : Bytes) (pcOf : Nat → Nat)
    (f : RExpr → Data → SK → FK → Option SRes) (e : RExpr) : Prop :=
  ∀ {off nid}, At prog off (genR pcOf e off nid).1 → WfR e →
    ∀ {L V C ks}, LsOk L C (genR pcOf e off nid).2 → TopOk C off →
      KOk pf prog text (off + lenR e) L V C ks → KOk pf prog text off L V C (fun d fk => f e d ks fk)

def AllProcs (prog : List Instr) (pcOf : Nat → Nat) (ρ : Procs) : Prop :=
  ∀ id x body pred, (id, x, body, pred) ∈ ρ →
    WfR body ∧ ∃ nid, At prog (pcOf id) (genR pcOf (.sub id x body pred) (pcOf id) nid).1

theorem AllProcs.append {ρ₁ ρ₂ : Procs} (h₁ : AllProcs prog pcOf ρ₁) (h₂ : AllProcs prog pcOf ρ₂) :
    AllProcs prog pcOf (ρ₁ ++ ρ₂) :=
  fun id x body pred h => (List.mem_append.mp h).elim (h₁ id x body pred) (h₂ id x body pred)

/-- a loop, given the simulation of its body: the head's decision by induction on the fuel of the specification's
loop, then the first entry -/
theorem simR_star {fb : RExpr → Data → SK → FK → Option SRes} {body : RExpr} (hb : SimF pf prog text pcOf fb body)
    (mx : Int) (fewest : Bool) (lf : Nat) :
    SimF pf prog text pcOf (fun _ d ks fk => loopV (fb body) mx fewest lf 0 d ks fk) (.star mx fewest body) := by
  intro off nid hat hwf L V C ks hL hT hks d fk bt r hfk hm
  simp only [genR, genR_length] at hat hL
  obtain ⟨hstart, hbody, hstop⟩ := hat.bracket
  rw [genR_length] at hstop
  replace hks : KOk pf prog text (off + lenR body + 1 + 1) L V C ks :=
    hks.cast (Nat.add_assoc off (lenR body) 2).symm
  have hdecide : ∀ fuel k d vars bt fk r, Rep pf prog text bt fk → loopV (fb body) mx fewest fuel k d ks fk = some r →
      EvStep pf prog text (loopDecide off (off + lenR body + 1) mx fewest d
        (loopAt (genR pcOf body (off + 1) nid).2 C k d vars) L V C bt) r := by
    intro fuel
    induction fuel with
    | zero => intro k d vars bt fk r _ h; simp [loopV] at h
    | succ fuel ih =>
      intro k d vars bt fk r hfk h
      simp only [loopV] at h
      unfold loopDecide
      rw [loopAt_iter]
      -- after one more iteration of the body: StopLoop jumps back to the head, which re-enters
      have hagain : KOk pf prog text (off + 1 + lenR body)
          (loopAt (genR pcOf body (off + 1) nid).2 C k d vars :: L) V C (fun d' fk' =>
            if d'.cur.length == d.cur.length then fk' () else loopV (fb body) mx fewest fuel (k + 1) d' ks fk') := by
        intro d' fk' bt' r' hrep' hk'
        refine ev_step (s' := ⟨mkCore off d' (loopAt (genR pcOf body (off + 1) nid).2 C k d vars :: L) V C, bt'⟩)
          hstop (by simp [step, hstop, mkCore]) ?_
        refine ev_of_step hstart ?_
        simp only [step, mkCore_pc, hstart]
        rw [startLoop_reenter]
        by_cases hz : (d'.cur.length == d.cur.length) = true
        · simp only [hz, if_true] at hk' ⊢
          exact evStep_backtrack (hrep' r' hk')
        · simp only [hz, Bool.false_eq_true, if_false] at hk' ⊢
          exact ih (k + 1) d' _ bt' fk' r' hrep' hk'
      -- one run of the body from the head, into `hagain`
      have hiter : KOk pf prog text (off + 1) (loopAt (genR pcOf body (off + 1) nid).2 C k d vars :: L) V C
          (fun d fk => fb body d _ fk) :=
        hb hbody hwf (hL.cons k d vars) (hT.mono (Nat.le_succ _)) hagain
      by_cases hc : (mx == -1 || decide ((k : Int) ≤ mx)) = true
      · simp only [hc, if_true] at h ⊢
        cases fewest with
        | true =>
          simp only [if_true] at h ⊢
          exact hks (fun r' hr' => evBt_cons (hiter hfk hr')) h
        | false =>
          simp only [Bool.false_eq_true, if_false] at h ⊢
          exact hiter (fun r' hr' => evBt_cons (hks hfk hr')) h
      · simp only [hc, Bool.false_eq_true, if_false] at h ⊢
        exact evStep_backtrack (hfk r h)
  refine ev_of_step hstart ?_
  simp only [step, mkCore_pc, hstart]
  rw [startLoop_fresh (fun l hl he => Nat.ne_of_gt ((hL l hl).2.2 he))]
  exact hdecide lf 0 d _ bt fk r hfk hm

theorem simR_step {callK : RExpr → Data → SK → FK → Option SRes}
    (hcall : ∀ e', SimF pf prog text pcOf callK e') (hprocs : AllProcs prog pcOf ρ) :
    ∀ e, SimF pf prog text pcOf (mrWith text lf pf ρ callK) e := by
  intro e
  induction e with
  | empty => intro off nid _ _ L V C ks _ _ hks; exact hks
  | seq a b iha ihb =>
    intro off nid hat hwf L V C ks hL hT hks
    simp only [genR, genR_length] at hat hL
    exact iha hat.app_left hwf.1 (hL.mono (genR_nid_mono pcOf b _ _)) hT
      (ihb (hat.app_right.cast (by rw [genR_length])) hwf.2 hL (hT.mono (Nat.le_add_right _ _))
        (hks.cast (Nat.add_assoc off (lenR a) (lenR b)).symm))
  | atom a =>
    intro off nid hat _ L V C ks _ _ hks
    have h0 : prog[off]? = some (genAtom a) := hat.head
    exact sim_leaf (atomD text a) h0 (fun _ _ => step_atom pf prog text _ a h0) hks
  | backref x =>
    intro off nid hat _ L V C ks _ _ hks
    have h0 : prog[off]? = some (.mvar x) := hat.head
    exact sim_leaf (backrefD text x) h0 (fun _ _ => step_mvar pf prog text _ x h0) hks
  | call x id =>
    intro off nid hat _ L V C ks hL _ hks d fk bt r hfk hm
    have h0 : prog[off]? = some (.call x (pcOf id)) := hat.head
    unfold mrWith at hm
    cases hf : ρ.find id with
    | none => simp [hf] at hm
    | some entry =>
      obtain ⟨y, body, pred⟩ := entry
      simp only [hf] at hm
      obtain ⟨hwfb, nidb, hsub⟩ := hprocs id y body pred (Procs.mem_of_find hf)
      simp only [genR] at hsub
      obtain ⟨hstart, hcode, hstop⟩ := hsub.bracket
      rw [genR_length] at hstop
      -- CALL: push the frame and jump to the subroutine; its StartSubroutine sees its own frame on top
      refine ev_step (s' := ⟨mkCore (pcOf id) d L V (⟨pcOf id, off + 1⟩ :: C), bt⟩) h0
        (by simp [step, h0, mkCore]) ?_
      refine ev_step (s' := ⟨mkCore (pcOf id + 1) d L V (⟨pcOf id, off + 1⟩ :: C), bt⟩) hstart
        (by simp [step, hstart, mkCore]) ?_
      exact hcall body hcode hwfb hL.push TopOk.push (kreturn hstop hks) hfk hm
  | star mx fewest body ih => exact simR_star ih mx fewest lf
  | branch l r ihl ihr =>
    intro off nid hat hwf L V C ks hL hT hks d fk bt r' hfk hm
    simp only [genR, genR_length] at hat hL
    unfold mrWith at hm
    obtain ⟨hbr, hl, hj1, hr, hj2⟩ := hat.bracket2
    simp only [genR_length] at hj1 hr hj2
    have hend : KOk pf prog text (off + lenR l + lenR r + 3) L V C ks := hks.cast (by simp only [lenR]; omega)
    refine ev_branch hbr (List.cons_ne_nil _ _) ?_
    refine ihl hl hwf.1 (hL.mono (genR_nid_mono pcOf r _ _)) (hT.mono (Nat.le_succ _)) (kjump hj1 hend) ?_ hm
    intro r'' hm'
    apply evBt_cons
    rw [Nat.add_right_comm off (lenR l) 2]
    exact ihr hr hwf.2 hL (hT.mono (by omega)) (kjump hj2 hend) hfk hm'
  | dec x body ih =>
    intro off nid hat hwf L V C ks hL hT hks d fk bt r hfk hm
    simp only [genR] at hat hL
    unfold mrWith at hm
    obtain ⟨h0, hbody, h2⟩ := hat.bracket
    rw [genR_length] at h2
    refine ev_step (s' := ⟨mkCore (off + 1) d L ((x, d.cur.length) :: V) C, bt⟩) h0
      (by simp [step, h0, mkCore]) ?_
    exact ih hbody hwf hL (hT.mono (Nat.le_succ _))
      (kendVar h2 (fun l hl => (hL l hl).1) (hks.cast (by simp only [lenR]; omega))) hfk hm
  | sub id x body pred ih =>
    intro off nid hat hwf L V C ks hL hT hks d fk bt r hfk hm
    simp only [genR, genR_length] at hat hL
    unfold mrWith at hm
    obtain ⟨h0, hbody, h2⟩ := hat.bracket
    rw [genR_length] at h2
    -- falling into the subroutine: VALIDATECALL pushes a frame that returns behind its EndSubroutine
    refine ev_step (s' := ⟨mkCore (off + 1) d L V (⟨off, off + 1 + lenR body + 1⟩ :: C), bt⟩) h0 ?_ ?_
    · cases C with
      | nil => simp [step, h0, mkCore]
      | cons top rest => simp [step, h0, mkCore, Nat.ne_of_lt (hT top rfl)]
    exact ih hbody hwf hL.push TopOk.push (kreturn h2 (hks.cast (by simp only [lenR]; omega))) hfk hm
  | inl neg items =>
    intro off nid hat hwf L V C ks _ _ hks
    cases neg with
    | false =>
      intro d fk bt r hfk hm
      simp only [genR] at hat
      unfold mrWith at hm
      have hne : items ≠ [] := hwf.resolve_left Bool.false_ne_true
      refine ev_branch hat.head (by simpa using hne) ?_
      rw [List.map_map]
      exact sim_inAlts (hks.cast (Nat.add_assoc off 1 (2 * items.length)).symm) d items (off + 1) hat.tail hfk r hm
    | true => exact sim_notIn (listMaxSize items) items off hat (hks.cast (Nat.add_assoc off (3 * items.length) 1).symm)

theorem simR_all (hprocs : AllProcs prog pcOf ρ) :
    ∀ cf e, SimF pf prog text pcOf (mrN text lf pf ρ cf) e := by
  intro cf
  induction cf with
  | zero =>
    -- depth 0: a called body never answers, so the hypothesis that it answered is `none = some r`
    exact simR_step (fun _ => by unfold SimF KOk; intros; contradiction) hprocs
  | succ cf ih => exact simR_step ih hprocs

theorem procs_at (e : RExpr) : ∀ off nid, At prog off (genR pcOf e off nid).1 → Consistent pcOf e off → WfR e →
    AllProcs prog pcOf (procsOf e) := by
  induction e with
  | seq a b iha ihb =>
    intro off nid hat hc hwf
    simp only [genR, genR_length] at hat
    exact (iha off nid hat.app_left hc.1 hwf.1).append
      (ihb (off + lenR a) _ (hat.app_right.cast (by rw [genR_length])) hc.2 hwf.2)
  | star _ _ _ ih | dec _ _ ih =>
    intro off nid hat hc hwf
    simp only [genR] at hat
    exact ih _ _ hat.bracket.2.1 hc hwf
  | branch l r ihl ihr =>
    intro off nid hat hc hwf
    simp only [genR, genR_length] at hat
    obtain ⟨-, hl, -, hr, -⟩ := hat.bracket2
    exact (ihl _ _ hl hc.1 hwf.1).append (ihr _ _ (hr.cast (by rw [genR_length])) hc.2 hwf.2)
  | sub i y body pred ih =>
    intro off nid hat hc hwf id x b p h
    rcases List.mem_cons.mp h with h | h
    · cases h
      exact ⟨hwf, nid, by rw [hc.1]; exact hat⟩
    · simp only [genR] at hat
      exact ih _ _ hat.bracket.2.1 hc.2 hwf id x b p h
  | _ => intro off nid _ _ _ id x b p h; cases h

theorem attemptR_sim {cf : Nat} {e : RExpr} (nid : Nat) (hc : Consistent pcOf e 0) (hwf : WfR e)
    {pos line col : Nat} {r : SRes} (h : attemptR text lf pf cf e pos line col = some r) :
    Ev pf (genR pcOf e 0 nid).1 text (initState pos line col) r := by
  have hat : At (genR pcOf e 0 nid).1 0 (genR pcOf e 0 nid).1 := fun i _ => by rw [Nat.zero_add]
  refine simR_all (procs_at e 0 nid hat hc hwf) cf e
    hat hwf (L := []) (V := []) (C := []) (bt' := []) (fun l hl => nomatch hl) (fun c hc => nomatch hc) ?_ ?_ h
  · intro d fk' bt' r' _ hk
    cases hk
    exact ⟨1, .success (mkCore (0 + lenR e) d [] [] []), by simp [run, genR_length], rfl⟩
  · intro r' hk
    cases hk
    rfl

end

/-- subroutine ids are pairwise distinct -/
def UniqueSubs (e : RExpr) : Prop := ((pcMap e 0).map (·.1)).Nodup

instance (e : RExpr) : Decidable (UniqueSubs e) := by unfold UniqueSubs; infer_instance

theorem consistent_genBody (e : RExpr) (hu : UniqueSubs e) : Consistent (pcLookup (pcMap e 0)) e 0 :=
  consistent_of_agree _ e 0 (pcLookup_of_nodup _ hu)

end Vore

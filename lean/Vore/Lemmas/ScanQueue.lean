import Vore.Lemmas.Ds
/-!
# Vore.Lemmas.ScanQueue — the scan loop with the match queue as written

`findMatches` keeps the reported matches in a `ds.Queue` (`matches.Push(m)`, `matches.Limit(last)` when `last != 0`,
`matches.Contents()` at the end).  `scanQ` is `Vore.scan` with that queue (Model/Ds.lean) in place of the list and
`limitLast`; it returns the contents of the queue.  `scanQ_eq_scan`: the two are the same function — so every theorem
about `scan` / `findMatches` (C01, C03, C04, …) is a theorem about the loop that uses the real container code.
-/
namespace Vore
open Vore.Ds

/-- what the loop does with a reported match: `Push`, then `Limit(last)` if a `last n` clause is present -/
def pushLimit (last : Nat) (q : Queue Match) (m : Match) : Queue Match :=
  if last != 0 then (q.push m).limit (last : Int) else q.push m

theorem pushLimit_store (last : Nat) (q : Queue Match) (m : Match) :
    (pushLimit last q m).store = limitLast last (q.store ++ [m]) := by
  unfold pushLimit limitLast
  split
  · rw [limit_store, toU64_nat]; rfl
  · rfl

/-- `Vore.scan` with the queue of libvore/ds as written -/
def scanQ (pf vf : Nat) (prog : List Instr) (amt : Amount) (text : Bytes) :
    Nat → (acc : Queue Match) → (matchNumber pos line col : Nat) → Option (Res (List Match))
  | 0, _, _, _, _, _ => none
  | f + 1, acc, mn, pos, line, col =>
    if !(amt.all || mn < amt.skip + amt.take) then some (.ok acc.contents) else
    match classify (run pf prog text vf (initState pos line col)) with
    | .diverge => none
    | .panic t => some (.panic t)
    | .pfuel => some .pfuel
    | .hit c =>
      let acc' := if mn ≥ amt.skip then pushLimit amt.last acc (makeMatch (mn + 1) pos line col c) else acc
      if c.pos ≥ text.length then some (.ok acc'.contents) else scanQ pf vf prog amt text f acc' (mn + 1) c.pos c.line c.col
    | .miss =>
      match readAt text pos 1 with
      | [b] =>
        let (line', col') := if b = nl then (line + 1, 1) else (line, col + 1)
        if pos + 1 ≥ text.length then some (.ok acc.contents) else scanQ pf vf prog amt text f acc mn (pos + 1) line' col'
      | _ => some (.panic "WOW THAT IS NOT GOOD :(")

theorem scanQ_eq_scan (pf vf : Nat) (prog : List Instr) (amt : Amount) (text : Bytes) :
    ∀ (f : Nat) (acc : Queue Match) (mn pos line col : Nat),
      scanQ pf vf prog amt text f acc mn pos line col = scan pf vf prog amt text f acc.store mn pos line col := by
  intro f
  induction f with
  | zero => intro acc mn pos line col; rfl
  | succ f ih =>
    intro acc mn pos line col
    -- with the recursive calls and the queue operations rewritten the two bodies are the same
    simp only [scanQ, scan, ih, Queue.contents, apply_ite Queue.store, pushLimit_store]
    rfl

/-- `findMatches` with the queue as written -/
def findMatchesQ (pf vf : Nat) (prog : List Instr) (amt : Amount) (text : Bytes) : Option (Res (List Match)) :=
  if text.length = 0 then some (.ok []) else
  if prog.length = 0 then some (.ok []) else
  scanQ pf vf prog amt text (text.length + 1) Queue.new 0 0 1 1

end Vore

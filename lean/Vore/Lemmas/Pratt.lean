import Vore.Spec.Grammar
/-!
# Vore.Lemmas.Pratt — the Pratt parser reads back the printers of the documented grammar

Generic in the precedence tables `pt`, under the decidable condition `PrecOK pt` (checked
for the regenerated tables by `decide` in `Props/C11.lean`).

`Renders k t toks` says what a printing of `t` is (the parentheses the grammar needs, and any further
pairs); `pratt_renders` reads every one of them back; `renderFull` and `renderMin` are two of them.
-/
namespace Vore.Pratt
open Vore Vore.Tables Vore.Spec.Grammar

/-! ## more fuel does not change a definite result -/

def PLe (r r' : PRes) : Prop := r = .fuel ∨ r = r'

theorem PLe.trans {a b c : PRes} : PLe a b → PLe b c → PLe a c := by
  rintro (rfl | rfl) h
  · exact .inl rfl
  · exact h

theorem ple_bind {r r' : PRes} {K K' : PExpr → List PTok → PRes} :
    PLe r r' → (∀ e rest, PLe (K e rest) (K' e rest)) →
    PLe (match r with | .ok e rest => K e rest | r => r) (match r' with | .ok e rest => K' e rest | r => r) := by
  rintro (rfl | rfl) hk
  · exact .inl rfl
  · cases r with
    | ok e rest => exact hk e rest
    | err _ => exact .inr rfl
    | fuel => exact .inl rfl

theorem fuel_mono (pt : PrecTable) : ∀ {f F : Nat}, f ≤ F →
    (∀ toks m, PLe (pratt pt f toks m) (pratt pt F toks m)) ∧
    (∀ lhs toks m, PLe (prattLoop pt f lhs toks m) (prattLoop pt F lhs toks m))
  | 0, _, _ => ⟨fun _ _ => .inl rfl, fun _ _ _ => .inl rfl⟩
  | f + 1, F + 1, h => by
    obtain ⟨ihp, ihl⟩ := fuel_mono pt (Nat.le_of_succ_le_succ h)
    constructor
    · intro toks m
      cases toks with
      | nil => exact .inr rfl
      | cons t rest =>
        cases t with
        | lparen =>
          simp only [pratt]
          refine ple_bind (ihp rest 0) fun e rest' => ?_
          split
          · exact ihl _ _ _
          · exact .inr rfl
        | op o =>
          simp only [pratt]
          split
          · exact ple_bind (ihp _ _) fun _ _ => ihl _ _ _
          · exact .inr rfl
        | rparen => exact .inr rfl
        | _ => simp only [pratt]; exact ihl _ _ _
    · intro lhs toks m
      cases toks with
      | nil => exact .inr rfl
      | cons t rest =>
        cases t with
        | op o =>
          simp only [prattLoop]
          split
          · split
            · exact .inr rfl
            · exact ple_bind (ihp _ _) fun _ _ => ihl _ _ _
          · exact .inr rfl
        | _ => exact .inr rfl

/-! ## the precedence tables

Three numbers recur below: 5 is the tightest binary level of `Spec/Grammar.lean` (`level`), 6 the level of atoms and
prefix applications (`exprLevel`), and 9 = 2·5 − 1 the largest left binding power of a binary operator, which every
prefix operator has to exceed. -/

/-- the precedence tables implement the documented strata: every documented binary operator
is a binary operator with binding powers `(2·level − 1, 2·level)` (left associative), and
every documented prefix operator is a prefix operator binding tighter than all of them -/
def PrecOK (pt : PrecTable) : Bool :=
  binaryOps.all (fun o => pt.binaryOp o && decide (pt.infixPrecedence o = (2 * (level o : Int) - 1, 2 * (level o : Int))))
  && prefixOps.all (fun o => pt.prefixOp o && decide (9 < pt.prefixPrecedence o))

theorem PrecOK.bin {pt : PrecTable} (h : PrecOK pt = true) {o : Op} (ho : o ∈ binaryOps) :
    pt.binaryOp o = true ∧ (pt.infixPrecedence o).1 = 2 * (level o : Int) - 1
      ∧ (pt.infixPrecedence o).2 = 2 * (level o : Int) := by
  unfold PrecOK at h
  rw [Bool.and_eq_true] at h
  have := List.all_eq_true.mp h.1 o ho
  simp only [Bool.and_eq_true, decide_eq_true_eq] at this
  exact ⟨this.1, by rw [this.2], by rw [this.2]⟩

theorem PrecOK.pre {pt : PrecTable} (h : PrecOK pt = true) {o : Op} (ho : o ∈ prefixOps) :
    pt.prefixOp o = true ∧ 9 < pt.prefixPrecedence o := by
  unfold PrecOK at h
  rw [Bool.and_eq_true] at h
  have := List.all_eq_true.mp h.2 o ho
  simpa using this

theorem level_pos : ∀ o ∈ binaryOps, 1 ≤ level o ∧ level o ≤ 5 := by decide

/-- what may follow an operand printed where level `k` is expected: nothing, a closing
parenthesis, or a documented binary operator of level at most `k` -/
inductive RestOK (k : Nat) : List PTok → Prop
  | nil : RestOK k []
  | rparen (rest : List PTok) : RestOK k (.rparen :: rest)
  | op (o : Op) (rest : List PTok) : o ∈ binaryOps → level o ≤ k → RestOK k (.op o :: rest)

theorem RestOK.weaken {k k' : Nat} (h : k ≤ k') {rest : List PTok} : RestOK k rest → RestOK k' rest
  | .nil => .nil
  | .rparen _ => .rparen _
  | .op o _ ho hl => .op o _ ho (Nat.le_trans hl h)

/-- no binary operator is above level 5 -/
theorem RestOK.five {k : Nat} {rest : List PTok} : RestOK k rest → RestOK 5 rest
  | .nil => .nil
  | .rparen _ => .rparen _
  | .op o _ ho _ => .op o _ ho (level_pos o ho).2

/-- the loop stops in front of `rest` when only operators binding at least `m` may continue
and `rest` starts with nothing, `)` or a weaker operator -/
theorem loop_stops {pt : PrecTable} (hpt : PrecOK pt = true) (f : Nat) (lhs : PExpr) {k : Nat} {m : Int}
    (hm : 2 * (k : Int) - 1 < m) {rest : List PTok} : RestOK k rest →
      prattLoop pt (f + 1) lhs rest m = .ok lhs rest
  | .nil => by simp [prattLoop]
  | .rparen _ => by simp [prattLoop]
  | .op o _ ho hl => by
    obtain ⟨hb, hl1, _⟩ := PrecOK.bin hpt ho
    have : (pt.infixPrecedence o).1 < m := by rw [hl1]; omega
    simp [prattLoop, hb, this]

/-- the loop takes an operator that binds at least `m`: it reads the right operand, one level up, and goes on with
the node -/
theorem loop_takes {pt : PrecTable} (hpt : PrecOK pt = true) {o : Op} (ho : o ∈ binaryOps) {m : Int}
    (hm : m ≤ 2 * (level o : Int) - 1) {f : Nat} {lhs rhs : PExpr} {toks rest : List PTok}
    (h : pratt pt f toks (2 * (level o : Int)) = .ok rhs rest) :
    prattLoop pt (f + 1) lhs (.op o :: toks) m = prattLoop pt f (.bin o lhs rhs) rest m := by
  obtain ⟨hb, hl1, hl2⟩ := PrecOK.bin hpt ho
  have : ¬ (pt.infixPrecedence o).1 < m := by rw [hl1]; exact Int.not_lt.mpr hm
  simp only [prattLoop, hb, if_true, this, if_false, hl2, h]

theorem pratt_atom (pt : PrecTable) {e : PExpr} (he : atomTok e ≠ .lparen) (F : Nat) (rest : List PTok) (m : Int) :
    pratt pt (F + 1) (atomTok e :: rest) m = prattLoop pt F e rest m := by
  cases e with
  | un | bin => exact absurd rfl he
  | bool b => cases b <;> simp [atomTok, pratt]
  | _ => simp [atomTok, pratt]

theorem pratt_paren (pt : PrecTable) (F : Nat) (inner rest : List PTok) (e : PExpr) (m : Int)
    (h : pratt pt F inner 0 = .ok e (.rparen :: rest)) :
    pratt pt (F + 1) (.lparen :: inner) m = prattLoop pt F e rest m := by
  simp [pratt, h]

theorem renderMin_atom (k : Nat) {e : PExpr} (he : atomTok e ≠ .lparen) : renderMin k e = [atomTok e] := by
  cases e with
  | un | bin => exact absurd rfl he
  | _ => rfl

/-- `Renders k t toks`: `toks` prints `t` where an expression of level ≥ `k` is expected, with at least the
parentheses the stratified left-associative grammar needs and any number of further pairs. -/
inductive Renders : Nat → PExpr → List PTok → Prop
  /-- `atomTok` sends exactly the compound expressions to `(` -/
  | atom (k : Nat) (e : PExpr) : atomTok e ≠ .lparen → Renders k e [atomTok e]
  | un (k : Nat) {o : Op} {e : PExpr} {a : List PTok} : o ∈ prefixOps → Renders 6 e a → Renders k (.un o e) (.op o :: a)
  | bin {k : Nat} {o : Op} {l r : PExpr} {a b : List PTok} : k ≤ level o → o ∈ binaryOps →
      Renders (level o) l a → Renders (level o + 1) r b → Renders k (.bin o l r) (a ++ [.op o] ++ b)
  | paren (k : Nat) {t : PExpr} {a : List PTok} : Renders 1 t a → Renders k t ([.lparen] ++ a ++ [.rparen])

/-- an operand: where the loop stops in front of `rest`, what is at least its result is that result -/
theorem PLe.operand {pt : PrecTable} (hpt : PrecOK pt = true) {f : Nat} {e : PExpr} {k : Nat} {m : Int}
    (hm : 2 * (k : Int) - 1 < m) {rest : List PTok} (hrest : RestOK k rest) {x : PRes}
    (h : PLe (prattLoop pt (f + 1) e rest m) x) : x = .ok e rest := by
  rw [loop_stops hpt f e hm hrest] at h
  exact (h.resolve_left nofun).symm

/-- the parser reads back every rendering and goes on with the loop on what follows it: on `toks ++ rest`, with
`|toks|` more units of fuel, it does what the loop does on `rest` with `t` in hand.  The binding-power invariant:
`m` lets in every binary operator of level ≥ `k` (at `k = 6`, under a prefix operator, there is none), so the loop
takes the top operator of `toks`; `rest` begins with none above level `k`, so no operand inside `toks` takes it. -/
theorem pratt_renders {pt : PrecTable} (hpt : PrecOK pt = true) {k : Nat} {t : PExpr} {toks : List PTok}
    (hR : Renders k t toks) : ∀ (m : Int) (rest : List PTok) (f : Nat),
      (k ≤ 5 → m ≤ 2 * (k : Int) - 1) → RestOK k rest →
      PLe (prattLoop pt f t rest m) (pratt pt (f + toks.length) (toks ++ rest) m) := by
  induction hR with
  | atom k e hne =>
    intro m rest f _ _
    exact .inr (pratt_atom pt hne f rest m).symm
  | @un k o e a ho _ ih =>
    intro m rest f _ hrest
    obtain ⟨hpre, hpp⟩ := PrecOK.pre hpt ho
    cases f with
    | zero => exact .inl rfl
    | succ f =>
      have he := (ih (pt.prefixPrecedence o) rest (f + 1) (by omega) (hrest.five.weaken (by decide))).operand hpt
        (k := 5) (by omega) hrest.five
      rw [List.length_cons, ← Nat.add_assoc, List.cons_append, pratt]
      simp only [hpre, if_true, he]
      exact (fuel_mono pt (Nat.le_add_right _ _)).2 _ _ _
  | @bin k o l r' a b hk ho _ _ ihl ihr =>
    intro m rest f hm hrest
    have hmo : m ≤ 2 * (level o : Int) - 1 := by
      have := hm (Nat.le_trans hk (level_pos o ho).2)
      omega
    cases f with
    | zero => exact .inl rfl
    | succ f =>
      have hr := (ihr (2 * (level o : Int)) rest (f + 1) (fun _ => by omega) (hrest.weaken (by omega))).operand hpt
        (k := k) (by omega) hrest
      have hloop : PLe (prattLoop pt (f + 1) (.bin o l r') rest m)
          (prattLoop pt (f + 1 + b.length + 1) l (.op o :: (b ++ rest)) m) := by
        rw [loop_takes hpt ho hmo hr]
        exact (fuel_mono pt (Nat.le_add_right _ _)).2 _ _ _
      have := hloop.trans (ihl m (.op o :: (b ++ rest)) _ (fun _ => hmo) (.op o _ ho (Nat.le_refl _)))
      simpa [List.append_assoc, Nat.add_assoc, Nat.add_comm, Nat.add_left_comm] using this
  | @paren k t a _ ih =>
    intro m rest f _ _
    cases f with
    | zero => exact .inl rfl
    | succ f =>
      have hin := (ih 0 (.rparen :: rest) (f + 2) (by omega) (.rparen _)).operand hpt (k := 0) (by omega) (.rparen _)
      have e1 : f + 1 + ([PTok.lparen] ++ a ++ [PTok.rparen]).length = f + 2 + a.length + 1 := by simp; omega
      have e2 : [PTok.lparen] ++ a ++ [PTok.rparen] ++ rest = .lparen :: (a ++ .rparen :: rest) := by simp
      rw [e1, e2, pratt_paren pt _ _ rest t m hin]
      exact (fuel_mono pt (by omega)).2 _ _ _

theorem parseTokens_renders {pt : PrecTable} (hpt : PrecOK pt = true) {t : PExpr} {toks : List PTok}
    (hR : Renders 1 t toks) : parseTokens pt toks = .ok t [] := by
  have := (pratt_renders hpt hR 0 [] 1 (fun _ => by omega) .nil).operand hpt (k := 0) (by omega) .nil
  simpa [parseTokens, Nat.add_comm] using this

theorem renderFull_renders (t : PExpr) : WF t → ∀ k, Renders k t (renderFull t) := by
  induction t with
  | un o e ih =>
    intro hwf k
    rw [renderFull]
    exact .paren k (.un 1 hwf.1 (ih hwf.2 6))
  | bin o l r ihl ihr =>
    intro hwf k
    rw [renderFull]
    exact .paren k (.bin (level_pos o hwf.1).1 hwf.1 (ihl hwf.2.1 _) (ihr hwf.2.2 _))
  | bool b => cases b <;> exact fun _ k => .atom k _ (by exact nofun)
  | _ => exact fun _ k => .atom k _ (by exact nofun)

theorem renderMin_renders (t : PExpr) : WF t → ∀ k, Renders k t (renderMin k t) := by
  induction t with
  | un o e ih => exact fun hwf k => .un k hwf.1 (ih hwf.2 6)
  | bin o l r ihl ihr =>
    intro hwf k
    rw [renderMin]
    split
    · exact .paren k (.bin (level_pos o hwf.1).1 hwf.1 (ihl hwf.2.1 _) (ihr hwf.2.2 _))
    · exact .bin (by omega) hwf.1 (ihl hwf.2.1 _) (ihr hwf.2.2 _)
  | bool b => cases b <;> exact fun _ k => .atom k _ (by exact nofun)
  | _ => exact fun _ k => .atom k _ (by exact nofun)

/-- `parse_expr_pratt(tokens, 0, 0)` on the fully parenthesised rendering -/
theorem parseTokens_renderFull {pt : PrecTable} (hpt : PrecOK pt = true) (t : PExpr) (hwf : WF t) :
    parseTokens pt (renderFull t) = .ok t [] :=
  parseTokens_renders hpt (renderFull_renders t hwf 1)

/-- `parse_expr_pratt(tokens, 0, 0)` on the minimally parenthesised rendering -/
theorem parseTokens_renderMin {pt : PrecTable} (hpt : PrecOK pt = true) (t : PExpr) (hwf : WF t) :
    parseTokens pt (renderMin 1 t) = .ok t [] :=
  parseTokens_renders hpt (renderMin_renders t hwf 1)

/-- Go token type names of the tokens a rendering can contain -/
def renderNames : List String :=
  ["STRING", "NUMBER", "TRUE", "FALSE", "IDENTIFIER", "OPENPAREN", "CLOSEPAREN"]
    ++ (binaryOps ++ prefixOps).map opGoName

/-- no token of a rendering ends an expression, and none is white space or a comment -/
def ExprEndOK (pt : PrecTable) : Bool :=
  renderNames.all (fun n => !pt.exprEnd.contains n && !(n == "WS") && !(n == "COMMENT"))

def okTok : PTok → Prop
  | .op o => o ∈ binaryOps ++ prefixOps
  | _ => True

theorem okTok_name {t : PTok} (h : okTok t) : t.goName ∈ renderNames := by
  cases t with
  | op o => exact List.mem_append_right _ (List.mem_map_of_mem h)
  | _ => exact List.mem_append_left _ (by simp [PTok.goName])

theorem exprTokens_ok {pt : PrecTable} (hpt : ExprEndOK pt = true) (e : PTok) (he : isExprEnd pt e = true)
    (rest : List PTok) : ∀ (toks : List PTok), (∀ t ∈ toks, okTok t) →
      exprTokens pt (toks ++ e :: rest) = (toks, e :: rest)
  | [], _ => by simp [exprTokens, he]
  | t :: ts, h => by
    have ht := okTok_name (h t (List.mem_cons_self))
    have := List.all_eq_true.mp hpt _ ht
    simp only [Bool.and_eq_true, Bool.not_eq_true'] at this
    have ih := exprTokens_ok hpt e he rest ts (fun t' ht' => h t' (List.mem_cons_of_mem _ ht'))
    simp only [List.cons_append, exprTokens, isExprEnd, this.1.1, this.1.2, this.2, ih]
    rfl

theorem parseProcessExpression_ok {pt : PrecTable} (hpt : ExprEndOK pt = true) {e : PTok} (he : isExprEnd pt e = true)
    (rest : List PTok) {toks : List PTok} (hok : ∀ x ∈ toks, okTok x) {t : PExpr}
    (h : parseTokens pt toks = .ok t []) :
    parseProcessExpression pt (toks ++ e :: rest) = .ok t (e :: rest) := by
  have ne : toks.isEmpty = false := by
    cases toks with
    | nil => simp [parseTokens, pratt] at h
    | cons _ _ => rfl
  simp only [parseProcessExpression, exprTokens_ok hpt e he rest _ hok, h, ne]
  rfl

theorem atomTok_ok (e : PExpr) : okTok (atomTok e) := by
  cases e with
  | bool b => cases b <;> trivial
  | _ => trivial

theorem Renders.ok {k : Nat} {t : PExpr} {toks : List PTok} (hR : Renders k t toks) : ∀ x ∈ toks, okTok x := by
  induction hR with
  | atom _ e _ => exact List.forall_mem_singleton.mpr (atomTok_ok e)
  | un _ ho _ ih => exact List.forall_mem_cons.mpr ⟨List.mem_append_right _ ho, ih⟩
  | bin _ ho _ _ ihl ihr =>
    rw [List.forall_mem_append, List.forall_mem_append, List.forall_mem_singleton]
    exact ⟨⟨ihl, List.mem_append_left _ ho⟩, ihr⟩
  | paren _ _ ih =>
    rw [List.forall_mem_append, List.forall_mem_append, List.forall_mem_singleton, List.forall_mem_singleton]
    exact ⟨⟨trivial, ih⟩, trivial⟩

end Vore.Pratt

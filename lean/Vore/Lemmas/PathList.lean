import Vore.Lemmas.Glob
/-!
# Vore.Lemmas.PathList — `GetFileList` lists the regular files whose path matches

Induction on the pattern's segments (outer) and on the entries of the directory reached so
far (inner).  `FS.resolve` of `cur/name` is the sub-directory `name` of what `cur` resolves
to (`resolve_child`), which is what lets the recursion of `getFileListNE` on path *strings*
follow the recursion of `Dir.regularFiles` on the *tree*.
-/
namespace Vore.Lemmas.PathList
open Vore.Path Vore.Lemmas.Glob
open Vore.Spec.Glob (render)

open Vore.Spec.Glob renaming «matches» → G, pathMatches → PM

theorem splitByte_append (sep : UInt8) (a b : Bytes) :
    splitByte sep (a ++ sep :: b) = splitByte sep a ++ splitByte sep b := by
  induction a with
  | nil => simp [splitByte]
  | cons c a ih =>
    by_cases hc : c = sep
    · simp [splitByte, hc, ih]
    · obtain ⟨first, rest, h1, -⟩ := splitByte_spec sep a
      simp [splitByte, hc, ih, h1]

theorem splitByte_noSep (sep : UInt8) (s : Bytes) (h : sep ∉ s) : splitByte sep s = [s] := by
  induction s with
  | nil => rfl
  | cons c s ih =>
    have hc : c ≠ sep := fun e => h (by simp [e])
    have hs : sep ∉ s := fun e => h (by simp [e])
    simp [splitByte, hc, ih hs]

theorem segments_eq (p : Bytes) : Spec.Glob.segments p = splitByte slash p := by
  induction p with
  | nil => rfl
  | cons c p ih =>
    rw [Spec.Glob.segments, splitByte, ih, slash_eq]
    rfl

theorem walk_append (st : List Dir) (a b : List Bytes) :
    walk st (a ++ b) = (walk st a).bind (fun s => walk s b) := by
  induction a generalizing st with
  | nil => simp [walk]
  | cons c a ih =>
    simp only [List.cons_append, walk]
    cases step st c with
    | none => simp
    | some s => simp [ih]

theorem validName_iff (n : Bytes) :
    Dir.validName n = true ↔ n ≠ [] ∧ slash ∉ n ∧ n ≠ [dot] ∧ n ≠ [dot, dot] := by
  simp [Dir.validName, and_assoc]

theorem slash_not_mem_of_valid (c : Bytes) (h : Dir.validName c = true) : slash ∉ c :=
  ((validName_iff c).mp h).2.1

theorem step_valid (d : Dir) (anc : List Dir) (n : Bytes) (hn : Dir.validName n = true) :
    step (d :: anc) n = (d.subdir n).map (· :: d :: anc) := by
  obtain ⟨h1, _, h3, h4⟩ := (validName_iff n).mp hn
  simp [step, h1, h3, h4]

theorem resolve_child (fs : FS) (cur n : Bytes) (d : Dir) (anc : List Dir)
    (hn : Dir.validName n = true) (hres : fs.resolve cur = some (d :: anc)) :
    fs.resolve (cur ++ slash :: n) = (d.subdir n).map (· :: d :: anc) := by
  cases cur with
  | nil => cases hres
  | cons c cur =>
    simp only [FS.resolve, List.cons_append] at hres ⊢
    rw [← List.cons_append, splitByte_append, splitByte_noSep slash n (slash_not_mem_of_valid n hn), walk_append,
      hres]
    simp only [Option.bind_some, walk]
    rw [step_valid d anc n hn]
    cases d.subdir n <;> rfl

theorem readDir_of_resolve (fs : FS) (cur : Bytes) (d : Dir) (anc : List Dir)
    (hres : fs.resolve cur = some (d :: anc)) : fs.readDir cur = some d.entries := by
  simp [FS.readDir, hres]

/-- an unreadable directory yields nothing (`if err != nil { return []string{} }`) -/
theorem getFileListNE_none {rd : ReadDir} {e : PathEntry} {rest : List PathEntry} {cur : Bytes}
    (hv : e.value ≠ [slash]) (hrd : rd cur = none) : getFileListNE rd e rest cur = [] := by
  cases rest with
  | nil => simp [getFileListNE, hrd]
  | cons e' rest => simp [getFileListNE, hv, hrd]

/-! ## directories, entry by entry

Every function on `Dir` treats a file entry and a sub-directory entry alike except for what hangs
below the name; `Dir.cons n ch rest` is the entry `n` (a file for `ch = none`) in front of `rest`, and
the functions get one equation each for it. -/

def Dir.cons (n : Bytes) : Option Dir → Dir → Dir
  | none, rest => .file n rest
  | some ch, rest => .sub n ch rest

theorem Dir.consInd {motive : Dir → Prop} (nil : motive .nil)
    (cons : ∀ n ch rest, (∀ c, ch = some c → motive c) → motive rest → motive (Dir.cons n ch rest)) :
    ∀ d, motive d
  | .nil => nil
  | .file n rest => cons n none rest (fun _ h => nomatch h) (Dir.consInd nil cons rest)
  | .sub n c rest =>
    cons n (some c) rest (fun _ h => Option.some.inj h ▸ Dir.consInd nil cons c) (Dir.consInd nil cons rest)

/-- the regular files below one entry, without its name in front -/
def tails : Option Dir → List (List Bytes)
  | none => [[]]
  | some c => c.regularFiles

section
variable (n : Bytes) (ch : Option Dir) (rest : Dir) (k : Bytes)

theorem names_cons : (Dir.cons n ch rest).names = n :: rest.names := by cases ch <;> rfl

theorem entries_cons : (Dir.cons n ch rest).entries = ⟨n, ch.isSome⟩ :: rest.entries := by cases ch <;> rfl

theorem subdir_cons : (Dir.cons n ch rest).subdir k = if n == k then ch else rest.subdir k := by
  cases ch <;> rfl

theorem regularFiles_cons :
    (Dir.cons n ch rest).regularFiles = (tails ch).map (n :: ·) ++ rest.regularFiles := by
  cases ch <;> rfl

/-- below a file entry only the empty path is left to match -/
theorem isRegularFile_cons (ms : List Bytes) :
    (Dir.cons n ch rest).isRegularFile (k :: ms) =
      if n == k then (match ch with | none => ms.isEmpty | some c => c.isRegularFile ms)
      else rest.isRegularFile (k :: ms) := by
  by_cases hk : (n == k) = true <;> cases ms <;> cases ch <;>
    simp [Dir.cons, Dir.isRegularFile, Dir.hasFile, Dir.subdir, hk]

end

theorem bytesLt_ne (a b : Bytes) (h : bytesLt a b = true) : a ≠ b := by
  intro e
  subst e
  simp [bytesLt] at h

theorem not_mem_names_of_namesGt (n : Bytes) (d : Dir) : d.namesGt n = true → n ∉ d.names := by
  induction d using Dir.consInd with
  | nil => exact fun _ => nofun
  | cons k ch rest _ ih =>
    intro h
    have h : bytesLt n k = true ∧ rest.namesGt n = true := by cases ch <;> simpa [Dir.cons, Dir.namesGt] using h
    rw [names_cons, List.mem_cons, not_or]
    exact ⟨bytesLt_ne _ _ h.1, ih h.2⟩

theorem wf_cons {n : Bytes} {ch : Option Dir} {rest : Dir} (h : (Dir.cons n ch rest).wf = true) :
    Dir.validName n = true ∧ n ∉ rest.names ∧ (∀ c, ch = some c → c.wf = true) ∧ rest.wf = true := by
  cases ch with
  | none =>
    simp only [Dir.cons, Dir.wf, Bool.and_eq_true] at h
    exact ⟨h.1.1, not_mem_names_of_namesGt n rest h.1.2, nofun, h.2⟩
  | some c =>
    simp only [Dir.cons, Dir.wf, Bool.and_eq_true] at h
    exact ⟨h.1.1.1, not_mem_names_of_namesGt n rest h.1.1.2, fun _ hc => Option.some.inj hc ▸ h.1.2, h.2⟩

theorem names_nodup (d : Dir) : d.wf = true → d.names.Nodup := by
  induction d using Dir.consInd with
  | nil => exact fun _ => List.nodup_nil
  | cons n ch rest _ ih =>
    intro h
    obtain ⟨_, hn, _, hr⟩ := wf_cons h
    rw [names_cons]
    exact List.nodup_cons.mpr ⟨hn, ih hr⟩

theorem entries_names (d : Dir) : d.entries.map (·.name) = d.names := by
  induction d using Dir.consInd with
  | nil => rfl
  | cons n ch rest _ ih => rw [entries_cons, names_cons, List.map_cons, ih]

theorem regularFiles_head (d : Dir) : ∀ x ∈ d.regularFiles, ∃ m y, m ∈ d.names ∧ x = m :: y := by
  induction d using Dir.consInd with
  | nil => exact fun _ hx => nomatch hx
  | cons n ch rest _ ih =>
    intro x hx
    rw [names_cons]
    rcases List.mem_append.mp (regularFiles_cons n ch rest ▸ hx) with hx | hx
    · obtain ⟨y, _, rfl⟩ := List.mem_map.mp hx
      exact ⟨n, y, List.mem_cons_self .., rfl⟩
    · obtain ⟨m, y, hm, rfl⟩ := ih x hx
      exact ⟨m, y, List.mem_cons_of_mem _ hm, rfl⟩

theorem regularFiles_ne_nil (d : Dir) (x : List Bytes) (hx : x ∈ d.regularFiles) : x ≠ [] := by
  obtain ⟨m, y, _, rfl⟩ := regularFiles_head d x hx
  exact List.cons_ne_nil _ _

theorem PM_nil_right (s : Bytes) (segs : List Bytes) : PM (s :: segs) [] = false := by
  simp [Spec.Glob.pathMatches]

theorem PM_nil_left (x : List Bytes) (hx : x ≠ []) : PM [] x = false := by
  cases x with
  | nil => exact absurd rfl hx
  | cons _ _ => simp [Spec.Glob.pathMatches]

theorem render_cons (cur n : Bytes) (x : List Bytes) : render cur (n :: x) = render (cur ++ slash :: n) x := by
  simp [render, slash_eq]

theorem render_single (cur n : Bytes) : render cur [n] = cur ++ slash :: n := by
  simp [render, slash_eq]

theorem filter_map_cons (p n : Bytes) (segs : List Bytes) (l : List (List Bytes)) :
    (l.map (n :: ·)).filter (PM (p :: segs)) = if G p n then (l.filter (PM segs)).map (n :: ·) else [] := by
  rw [List.filter_map]
  cases hg : G p n <;> simp [Function.comp_def, Spec.Glob.pathMatches, hg]

theorem filter_PM_nil (d : Dir) : d.regularFiles.filter (PM []) = [] :=
  List.filter_eq_nil_iff.mpr fun x hx => by simp [PM_nil_left x (regularFiles_ne_nil d x hx)]

theorem level_last (p cur : Bytes) (d : Dir) :
    (d.entries.filter (fun e => !e.isDir && G p e.name)).map (fun e => cur ++ slash :: e.name)
      = (d.regularFiles.filter (PM [p])).map (render cur) := by
  induction d using Dir.consInd with
  | nil => rfl
  | cons n ch rest _ ih =>
    rw [entries_cons, regularFiles_cons, List.filter_cons, List.filter_append, List.map_append, ← ih, filter_map_cons]
    cases ch with
    | none => cases hg : G p n <;> simp [tails, show PM [] [] = true from rfl, render_single]
    | some c =>
      -- paths through a sub-directory have two components or more: none matches `[p]`
      cases hg : G p n <;> simp [tails, filter_PM_nil]

/-- a directory segment: descend into every entry whose name matches.  `R` is the recursive
call on the remaining entries; `look` is what resolving `cur/name` finds (for a file, `tails none`
holds the empty path, which no further segment matches). -/
theorem level_dir (p cur : Bytes) (segs : List Bytes) (R : Bytes → List Bytes) (look : Bytes → Option Dir)
    (hR : ∀ n o, Dir.validName n = true → (∀ c, o = some c → c.wf = true) → look n = o →
      R (cur ++ slash :: n) = ((tails o).filter (PM segs)).map (render (cur ++ slash :: n))) :
    ∀ (d : Dir), (∀ m ∈ d.names, look m = d.subdir m) → d.wf = true →
      (d.entries.filter (fun e => G p e.name)).flatMap (fun e => R (cur ++ slash :: e.name))
        = (d.regularFiles.filter (PM (p :: segs))).map (render cur) := by
  intro d
  induction d using Dir.consInd with
  | nil => intro _ _; rfl
  | cons n ch rest _ ih =>
    intro hl hwf
    obtain ⟨hv, hn, hc, hr⟩ := wf_cons hwf
    -- names are distinct: `look` finds this entry under `n` and the later ones under theirs
    simp only [names_cons, subdir_cons, List.forall_mem_cons, beq_self_eq_true, if_true] at hl
    have hlr : ∀ m ∈ rest.names, look m = rest.subdir m := fun m hm => by
      rw [hl.2 m hm, if_neg (by simpa using fun (e : n = m) => hn (e ▸ hm))]
    rw [entries_cons, regularFiles_cons, List.filter_cons, List.filter_append, List.map_append, ← ih hlr hr,
      filter_map_cons]
    cases hg : G p n
    · simp
    · simp only [if_true, List.flatMap_cons, hR n ch hv hc hl.1, List.map_map]
      congr 1
      apply List.map_congr_left
      intro x _
      simp [render_cons]

/-- a literal directory segment is the wildcard case with at most one matching entry -/
theorem exists_as_filter (l : List DirEntry) (p : Bytes) (f : Bytes → List Bytes)
    (hnd : (l.map (·.name)).Nodup) :
    (if directoryExists l p then f p else []) = (l.filter (fun e => e.name == p)).flatMap (fun e => f e.name) := by
  induction l with
  | nil => rfl
  | cons e l ih =>
    obtain ⟨he, hnd⟩ := List.nodup_cons.mp hnd
    rw [directoryExists, List.any_cons, List.filter_cons]
    by_cases hep : e.name = p
    · -- the one entry of that name: none of the later ones has it
      subst hep
      have : l.filter (fun e' => e'.name == e.name) = [] :=
        List.filter_eq_nil_iff.mpr fun x hx hxe => he (List.mem_map.mpr ⟨x, hx, eq_of_beq hxe⟩)
      simp [this]
    · rw [beq_false_of_ne hep, Bool.false_or, if_neg Bool.false_ne_true]
      exact ih hnd

/-- the entry for one segment (`last` = it is the final one) -/
def mkEntry (s : Bytes) (last : Bool) : PathEntry :=
  if last then (if containsStar s then ⟨.wildcardFile, s⟩ else ⟨.file, s⟩)
  else (if containsStar s then ⟨.wildcardDirectory, s⟩ else ⟨.directory, s⟩)

theorem parseEntries_cons (s : Bytes) (tl : List Bytes) :
    parseEntries (s :: tl) = mkEntry s tl.isEmpty :: parseEntries tl := by
  cases tl <;> simp [parseEntries, mkEntry]

theorem mkEntry_value (s : Bytes) (b : Bool) : (mkEntry s b).value = s := by
  unfold mkEntry; split <;> split <;> rfl

theorem not_mem_of_containsStar (s : Bytes) (h : containsStar s = false) : Spec.Glob.star ∉ s := by
  intro hm
  simp [containsStar, star_eq] at h
  exact h hm

theorem ne_slash_of_not_mem (s : Bytes) (h : slash ∉ s) : s ≠ [slash] := by
  rintro rfl
  simp at h

/-- a directory segment that is not made of stars only: the recursive call below every entry whose name
matches (`exists_as_filter` for a literal segment) -/
theorem getFileListNE_dir {rd : ReadDir} {s cur : Bytes} {e' : PathEntry} {rest : List PathEntry}
    {entries : List DirEntry} (hs : slash ∉ s) (hso : starOnly s = false) (hrd : rd cur = some entries)
    (hnd : (entries.map (·.name)).Nodup) :
    getFileListNE rd (mkEntry s false) (e' :: rest) cur =
      (entries.filter (fun d => G s d.name)).flatMap (fun d => getFileListNE rd e' rest (cur ++ slash :: d.name)) := by
  have hsl : (s == [slash]) = false := beq_false_of_ne (ne_slash_of_not_mem s hs)
  simp only [getFileListNE, mkEntry_value, hsl, Bool.false_eq_true, if_false, hrd, hso, List.nil_append,
    pathMatches_eq]
  cases hstar : containsStar s
  · have hE : mkEntry s false = ⟨.directory, s⟩ := by simp [mkEntry, hstar]
    have hd : (PathEntryType.directory == PathEntryType.wildcardDirectory) = false := by decide
    simp only [hE, hd, beq_self_eq_true, Bool.false_eq_true, if_false, Bool.true_and]
    rw [exists_as_filter entries s (fun n => getFileListNE rd e' rest (cur ++ slash :: n)) hnd]
    congr 1
    apply List.filter_congr
    intro e _
    rw [G_lit s (not_mem_of_containsStar s hstar)]
  · have hE : mkEntry s false = ⟨.wildcardDirectory, s⟩ := by simp [mkEntry, hstar]
    simp only [hE, beq_self_eq_true, if_true]

theorem getFileListNE_spec (fs : FS) : ∀ (tl : List Bytes) (s : Bytes),
    (∀ x ∈ s :: tl, slash ∉ x) → (∀ x ∈ (s :: tl).dropLast, starOnly x = false) →
    ∀ (cur : Bytes) (d : Dir) (anc : List Dir), fs.resolve cur = some (d :: anc) → d.wf = true →
    getFileListNE fs.readDir (mkEntry s tl.isEmpty) (parseEntries tl) cur
      = (d.regularFiles.filter (PM (s :: tl))).map (render cur) := by
  intro tl
  induction tl with
  | nil =>
    intro s _ _ cur d anc hres _
    simp only [parseEntries, getFileListNE, readDir_of_resolve fs cur d anc hres, mkEntry_value,
      pathMatches_eq]
    exact level_last s cur d
  | cons s' tl ih =>
    intro s hsl hso cur d anc hres hwf
    obtain ⟨hs, hsl'⟩ := List.forall_mem_cons.mp hsl
    obtain ⟨hso1, hso'⟩ := List.forall_mem_cons.mp hso
    rw [parseEntries_cons s' tl, List.isEmpty_cons,
      getFileListNE_dir hs hso1 (readDir_of_resolve fs cur d anc hres) (entries_names d ▸ names_nodup d hwf)]
    -- the recursive call, as a function of the directory string
    refine level_dir s cur (s' :: tl) _ d.subdir (fun n o hn ho hsub => ?_) d (fun _ _ => rfl) hwf
    have hres' := resolve_child fs cur n d anc hn hres
    rw [hsub] at hres'
    cases o with
    | none =>
      -- a file where a directory is wanted: `ReadDir` fails; the empty path left below it matches no segment
      exact getFileListNE_none (by rw [mkEntry_value]; exact ne_slash_of_not_mem s' (hsl' s' (List.mem_cons_self ..)))
        (by simp [FS.readDir, hres'])
    | some ch => exact ih s' hsl' hso' (cur ++ slash :: n) ch (d :: anc) hres' (ho ch rfl)

theorem starOnly_eq (s : Bytes) : Path.starOnly s = Spec.Glob.starOnly s := rfl

theorem resolve_root (fs : FS) : fs.resolve [slash] = some [fs.root] := by
  simp [FS.resolve, splitByte, walk, step]

/-- `ParsePath` and the first step of `GetFileList`: the walk starts at the starting directory with
the entries of the pattern's segments (an absolute pattern restarts at `/`) -/
theorem fileList_eq (rd : ReadDir) (pattern dir : Bytes) (hne : pattern ≠ []) :
    ∃ s tl, Spec.Glob.relSegments pattern = s :: tl ∧ (∀ x ∈ s :: tl, slash ∉ x) ∧
      fileList rd pattern dir =
        .ok (getFileListNE rd (mkEntry s tl.isEmpty) (parseEntries tl) (Spec.Glob.startDir pattern dir)) := by
  cases pattern with
  | nil => exact absurd rfl hne
  | cons c rest =>
    by_cases hc : c = slash
    · -- absolute: `ParsePath` puts the entry `/` in front, at which `GetFileList` restarts in "/"
      subst hc
      obtain ⟨s, tl, hsp, -, hsl⟩ := splitByte_spec slash rest
      have habs : Spec.Glob.isAbsolute (slash :: rest) = true := by simp [Spec.Glob.isAbsolute, ← slash_eq]
      refine ⟨s, tl, ?_, hsl, ?_⟩
      · simp [Spec.Glob.relSegments, habs, segments_eq, hsp]
      · simp [Spec.Glob.startDir, habs, ← slash_eq, hsp, fileList, parsePath, parseEntries_cons, getFileList,
          getFileListNE]
    · obtain ⟨s, tl, hsp, -, hsl⟩ := splitByte_spec slash (c :: rest)
      have habs : Spec.Glob.isAbsolute (c :: rest) = false := by simp [Spec.Glob.isAbsolute, ← slash_eq, hc]
      refine ⟨s, tl, ?_, hsl, ?_⟩
      · simp [Spec.Glob.relSegments, habs, segments_eq, hsp]
      · simp [Spec.Glob.startDir, habs, hc, hsp, fileList, parsePath, parseEntries_cons, getFileList]

theorem fileList_spec (fs : FS) (pattern dir : Bytes) (start : Dir) (anc : List Dir)
    (hne : pattern ≠ []) (hstar : Spec.Glob.NoStarOnlyDir pattern)
    (hstart : fs.resolve (Spec.Glob.startDir pattern dir) = some (start :: anc)) (hwf : start.wf = true) :
    fileList fs.readDir pattern dir
      = .ok ((start.regularFiles.filter (PM (Spec.Glob.relSegments pattern))).map
          (render (Spec.Glob.startDir pattern dir))) := by
  obtain ⟨s, tl, hseg, hsl, hfl⟩ := fileList_eq fs.readDir pattern dir hne
  rw [Spec.Glob.NoStarOnlyDir, hseg] at hstar
  rw [hfl, hseg, getFileListNE_spec fs tl s hsl hstar _ start anc hstart hwf]

theorem not_mem_regularFiles {n : Bytes} {rest : Dir} (h : n ∉ rest.names) (y : List Bytes) :
    n :: y ∉ rest.regularFiles := by
  intro hm
  obtain ⟨m, y', hm', he⟩ := regularFiles_head rest _ hm
  exact h ((List.cons.inj he).1 ▸ hm')

theorem nodup_map_of_inj_on {α β : Type} (f : α → β) (l : List α) (hinj : ∀ a ∈ l, ∀ b ∈ l, f a = f b → a = b)
    (h : l.Nodup) : (l.map f).Nodup :=
  List.pairwise_map.2 (h.imp_of_mem fun ha hb hne he => hne (hinj _ ha _ hb he))

theorem regularFiles_nodup (d : Dir) : d.wf = true → d.regularFiles.Nodup := by
  induction d using Dir.consInd with
  | nil => exact fun _ => List.nodup_nil
  | cons n ch rest ihc ih =>
    intro h
    obtain ⟨_, hn, hc, hr⟩ := wf_cons h
    rw [regularFiles_cons, List.nodup_append]
    refine ⟨nodup_map_of_inj_on (n :: ·) _ (fun _ _ _ _ he => (List.cons.inj he).2) ?_, ih hr, ?_⟩
    · cases ch with
      | none => exact List.nodup_cons.mpr ⟨nofun, List.nodup_nil⟩
      | some c => exact ihc c rfl (hc c rfl)
    · intro a ha b hb hab
      obtain ⟨y, _, rfl⟩ := List.mem_map.mp ha
      exact not_mem_regularFiles hn y (hab ▸ hb)

theorem regularFiles_valid (d : Dir) : d.wf = true → ∀ x ∈ d.regularFiles, ∀ c ∈ x, Dir.validName c = true := by
  induction d using Dir.consInd with
  | nil => exact fun _ _ hx => nomatch hx
  | cons n ch rest ihc ih =>
    intro h x hx k hk
    obtain ⟨hv, _, hc, hr⟩ := wf_cons h
    rcases List.mem_append.mp (regularFiles_cons n ch rest ▸ hx) with hx | hx
    · obtain ⟨y, hy, rfl⟩ := List.mem_map.mp hx
      rcases List.mem_cons.mp hk with rfl | hk
      · exact hv
      · cases ch with
        | none => cases List.mem_singleton.mp hy; cases hk
        | some c => exact ihc c rfl (hc c rfl) y hy k hk
    · exact ih hr x hx k hk

theorem splitByte_join (n : Bytes) (xs : List Bytes) (hn : slash ∉ n) (hx : ∀ c ∈ xs, slash ∉ c) :
    splitByte slash (n ++ xs.flatMap (slash :: ·)) = n :: xs := by
  induction xs generalizing n with
  | nil => rw [List.flatMap_nil, List.append_nil, splitByte_noSep slash n hn]
  | cons m xs ih =>
    obtain ⟨hm, hxs⟩ := List.forall_mem_cons.mp hx
    rw [List.flatMap_cons, List.cons_append, splitByte_append, splitByte_noSep slash n hn, ih m hm hxs]
    rfl

theorem render_injective (dir : Bytes) (x y : List Bytes) (hx : ∀ c ∈ x, slash ∉ c) (hy : ∀ c ∈ y, slash ∉ c)
    (h : render dir x = render dir y) : x = y := by
  simp only [render, List.append_cancel_left_eq, ← slash_eq] at h
  have h1 := splitByte_join [] x nofun hx
  rw [List.nil_append, h, ← List.nil_append (List.flatMap _ y), splitByte_join [] y nofun hy] at h1
  exact (List.cons.inj h1).2.symm

theorem rendered_nodup {d : Dir} (hwf : d.wf = true) {dir : Bytes} {keep : List Bytes → Bool} :
    ((d.regularFiles.filter keep).map (render dir)).Nodup := by
  apply nodup_map_of_inj_on
  · intro a ha b hb h
    have ha' := (List.mem_filter.mp ha).1
    have hb' := (List.mem_filter.mp hb).1
    exact render_injective dir a b
      (fun c hc => slash_not_mem_of_valid c (regularFiles_valid d hwf a ha' c hc))
      (fun c hc => slash_not_mem_of_valid c (regularFiles_valid d hwf b hb' c hc)) h
  · exact (regularFiles_nodup d hwf).filter _

theorem mem_regularFiles_cons {n : Bytes} {ch : Option Dir} {rest : Dir} (hn : n ∉ rest.names) (k : Bytes)
    (ms : List Bytes) :
    k :: ms ∈ (Dir.cons n ch rest).regularFiles ↔ if n == k then ms ∈ tails ch else k :: ms ∈ rest.regularFiles := by
  rw [regularFiles_cons, List.mem_append, List.mem_map]
  by_cases hk : n = k
  · subst hk
    simp [not_mem_regularFiles hn ms]
  · simp [hk]

theorem isRegularFile_iff (d : Dir) : d.wf = true → ∀ x, (x ∈ d.regularFiles ↔ d.isRegularFile x = true) := by
  induction d using Dir.consInd with
  | nil =>
    intro _ x
    rcases x with _ | ⟨k, _ | _⟩ <;> simp [Dir.regularFiles, Dir.isRegularFile, Dir.hasFile, Dir.subdir]
  | cons n ch rest ihc ih =>
    intro h x
    obtain ⟨_, hn, hc, hr⟩ := wf_cons h
    cases x with
    | nil => exact ⟨fun hm => absurd rfl (regularFiles_ne_nil _ _ hm), fun hm => by simp [Dir.isRegularFile] at hm⟩
    | cons k ms =>
      rw [mem_regularFiles_cons hn, isRegularFile_cons, ih hr]
      split
      · cases ch with
        | none => simp [tails]
        | some c => exact ihc c rfl (hc c rfl) ms
      · rfl

theorem hasFile_iff (d : Dir) (h : d.wf = true) (k : Bytes) : [k] ∈ d.regularFiles ↔ d.hasFile k = true :=
  isRegularFile_iff d h [k]

theorem subdir_none_of_not_mem (k : Bytes) (d : Dir) : k ∉ d.names → d.subdir k = none := by
  induction d using Dir.consInd with
  | nil => exact fun _ => rfl
  | cons n ch rest _ ih =>
    rw [names_cons, subdir_cons, List.mem_cons, not_or]
    intro h
    rw [if_neg (by simpa using fun e => h.1 e.symm), ih h.2]

end Vore.Lemmas.PathList

import Vore.Lemmas.Locate
import Vore.Lemmas.Adv
import Vore.Lemmas.AtomsFrame
/-!
# Vore.Lemmas.VMInv — properties of the VM state that every instruction keeps

`Preserved text P Q V` lists what a property `P` of a (running or saved) state needs so that all 16 instructions keep
it; `run_preserves` is the one walk over `step`.  Its instances: the location invariant `Inv` of C03 (below) and
the finite-map invariant `WInv` of C17 (Lemmas/JsonWF.lean).
-/
namespace Vore
open Vore.Spec

/-- `P` looks at the environment and at the loop stack only through a property `Q` of their variable maps (relative
to the text consumed so far) that `ValueHashMap.Add` and lookup respect (`V`: the same for one value); it ignores `pc`
and the call stack; `CONSUME` and pushing a variable record keep it.  `pushVar` and the `vars ⊆` of `frame` serve only
`Inv.vars_le` (recorded offsets lie inside the consumed text), a field of `Inv` that no proof reads. -/
structure Preserved (text : Bytes) (P : Core → Prop) (Q : Bytes → VMap → Prop) (V : Bytes → Val → Prop) : Prop where
  env : ∀ {c}, P c → Q c.cur c.env
  loops : ∀ {c}, P c → ∀ l ∈ c.loops, Q c.cur l.vars
  frame : ∀ {c}, P c → ∀ {pc calls vars env loops}, vars ⊆ c.vars → Q c.cur env → (∀ l ∈ loops, Q c.cur l.vars) →
    P { c with pc := pc, calls := calls, vars := vars, env := env, loops := loops }
  consume : ∀ {c}, P c → ∀ n, P (c.consume text n)
  pushVar : ∀ {c}, P c → ∀ x, P { c with vars := (x, c.cur.length) :: c.vars }
  nil : ∀ w, Q w .nil
  put : ∀ {w m v}, Q w m → V w v → ∀ x, Q w (m.put x v)
  get : ∀ {w m x v}, Q w m → m.get x = some v → V w v
  map : ∀ {w m}, V w (.map m) ↔ Q w m
  drop : ∀ w n, V w (.str (w.drop n))

def VMState.All (P : Core → Prop) (s : VMState) : Prop := P s.core ∧ ∀ c ∈ s.bt, P c

def StepOk (P : Core → Prop) : Step → Prop
  | .cont s => s.All P
  | .done (.success c) => P c
  | .done _ => True

theorem stepOk_backtrack {P : Core → Prop} {s : VMState} (h : ∀ c ∈ s.bt, P c) : StepOk P s.backtrack := by
  unfold VMState.backtrack
  split
  · trivial
  · next hb => rw [hb] at h; exact List.forall_mem_cons.mp h

theorem popLoop_cur (c : Core) (top : LoopSt) (rest : List LoopSt) : (c.popLoop top rest).cur = c.cur := by
  unfold Core.popLoop Core.insertVar
  simp only
  split
  · split <;> rfl
  · rfl

section
variable {text : Bytes} {P : Core → Prop} {Q : Bytes → VMap → Prop} {V : Bytes → Val → Prop}
  (I : Preserved text P Q V)
include I

theorem Preserved.ctrl {c : Core} (h : P c) {pc : Nat} {calls : List CallSt} : P { c with pc := pc, calls := calls } :=
  I.frame h (List.Subset.refl _) (I.env h) (I.loops h)

theorem Preserved.withLoops {c : Core} (h : P c) {ls : List LoopSt} (hls : ∀ l ∈ ls, Q c.cur l.vars) :
    P { c with loops := ls } :=
  I.frame h (List.Subset.refl _) (I.env h) hls

/-- a leaf (lit, cls, rng, mvar): the pc moves on with the data after a `CONSUME` (of nothing, if the leaf reads nothing), or the VM backtracks -/
theorem stepOk_lift {s : VMState} (h : s.All P) {od : Option Data} {b : Bool}
    (hod : ∀ {d'}, od = some d' → AdvS text b s.core.data d') : StepOk P (lift s od) := by
  cases od with
  | none => exact stepOk_backtrack h.2
  | some d' =>
    obtain ⟨n, rfl, _⟩ := hod rfl
    exact ⟨I.ctrl (I.consume h.1 n), h.2⟩

theorem insertInLoops_ok {w : Bytes} {x : String} {v : Val} (hv : V w v) :
    ∀ {ls ls' : List LoopSt}, (∀ l ∈ ls, Q w l.vars) → insertInLoops ls x v = some ls' → ∀ l ∈ ls', Q w l.vars := by
  intro ls
  induction ls with
  | nil => intro ls' _ h; simp [insertInLoops] at h
  | cons l rest ih =>
    intro ls' hall h
    obtain ⟨hl, hrest⟩ := List.forall_mem_cons.mp hall
    unfold insertInLoops at h
    split at h
    · -- the innermost named loop: the map of its current iteration gets the binding
      cases h
      refine List.forall_mem_cons.mpr ⟨I.put hl (I.map.mpr ?_) _, hrest⟩
      split
      · next hg => exact I.put (I.map.mp (I.get hl hg)) hv x
      · next hg => exact I.put (I.put (I.nil w) (I.get hl hg) "value") hv x
      · exact I.put (I.nil w) hv x
    · obtain ⟨r, hr, rfl⟩ := Option.map_eq_some_iff.mp h
      exact List.forall_mem_cons.mpr ⟨hl, ih hrest hr⟩

theorem Preserved.insertVar {c : Core} (h : P c) (x : String) {v : Val} (hv : V c.cur v) : P (c.insertVar x v) := by
  unfold Core.insertVar
  split
  · next hls => exact I.withLoops h (insertInLoops_ok I hv (I.loops h) hls)
  · exact I.frame h (List.Subset.refl _) (I.put (I.env h) hv x) (I.loops h)

theorem Preserved.popLoop {c : Core} (h : P c) {top : LoopSt} {rest : List LoopSt} (htop : Q c.cur top.vars)
    (hrest : ∀ l ∈ rest, Q c.cur l.vars) : P (c.popLoop top rest) := by
  unfold Core.popLoop
  split
  · exact I.insertVar (I.withLoops h hrest) _ (I.map.mpr htop)
  · exact I.withLoops h hrest

theorem stepOk_startLoop {s : VMState} (h : s.All P) {id mn : Nat} {mx : Int} {fw : Bool} {ex : Nat} {nm : String} :
    StepOk P (s.startLoop id mn mx fw ex nm) := by
  have hnew : Q s.core.cur (.cons "0" (.map .nil) .nil) := I.put (I.nil _) (I.map.mpr (I.nil _)) "0"
  unfold VMState.startLoop
  simp only
  split
  · exact stepOk_backtrack h.2
  · next top rest hent =>
    -- INITLOOPSTACK / INCLOOPSTACK leave a loop stack all of whose maps are acceptable
    have hall : ∀ l ∈ top :: rest, Q s.core.cur l.vars := by
      split at hent
      · next hl =>
        split at hent
        · cases hent; exact List.forall_mem_cons.mpr ⟨hnew, I.loops h.1⟩
        · split at hent
          · cases hent
          · cases hent
            obtain ⟨ht, hr⟩ := List.forall_mem_cons.mp (hl ▸ I.loops h.1)
            exact List.forall_mem_cons.mpr ⟨I.put ht (I.map.mpr (I.nil _)) _, hr⟩
      · cases hent; exact List.forall_mem_cons.mpr ⟨hnew, by simp⟩
    obtain ⟨htop, hrest⟩ := List.forall_mem_cons.mp hall
    have hin : P { s.core with loops := top :: rest } := I.withLoops h.1 hall
    by_cases hk : top.iter < mn
    · rw [if_pos hk]; exact ⟨I.ctrl hin, h.2⟩
    rw [if_neg hk]
    by_cases hmx : (mx == -1 || (top.iter : Int) ≤ mx) = true
    · rw [if_pos hmx]
      cases fw
      · -- greedy: enter the body again with `top` pushed back; leaving is the alternative
        have hp := I.popLoop hin htop hrest
        exact ⟨I.frame hp (List.Subset.refl _) (I.env hp)
          (List.forall_mem_cons.mpr ⟨by rw [popLoop_cur]; exact htop, I.loops hp⟩),
          List.forall_mem_cons.mpr ⟨I.ctrl hp, h.2⟩⟩
      · -- fewest: leave the loop; the body is the alternative
        exact ⟨I.ctrl (I.popLoop (I.ctrl hin) htop hrest), List.forall_mem_cons.mpr ⟨I.ctrl hin, h.2⟩⟩
    · rw [if_neg hmx]
      exact stepOk_backtrack (s := ⟨{ s.core with loops := top :: rest }, s.bt⟩) h.2

theorem stepOk_step (pf : Nat) (prog : List Instr) {s : VMState} (h : s.All P) : StepOk P (step pf prog text s) := by
  have hjump : ∀ {pc calls}, StepOk P (.cont { s with core := { s.core with pc := pc, calls := calls } }) :=
    ⟨I.ctrl h.1, h.2⟩
  cases hi : prog[s.core.pc]? with
  | none => simp only [step, hi]; trivial
  | some i =>
    cases i
    case mvar x => rw [step_mvar pf prog text s x hi]; exact stepOk_lift I h adv_backref
    all_goals simp only [step, hi]
    case lit => rw [lift_matchLit]; exact stepOk_lift I h advS_lit
    case cls => rw [lift_matchClass]; exact stepOk_lift I h advS_class
    case rng => rw [lift_matchRange]; exact stepOk_lift I h advS_range
    case call => exact hjump
    case branch ts =>
      unfold VMState.branch
      split
      · trivial
      · exact ⟨I.ctrl h.1, List.forall_mem_append.mpr ⟨List.forall_mem_map.mpr fun _ _ => I.ctrl h.1, h.2⟩⟩
    case startNotIn => exact ⟨I.ctrl h.1, List.forall_mem_cons.mpr ⟨I.ctrl h.1, h.2⟩⟩
    case failNotIn =>
      split
      · next hb => exact List.forall_mem_cons.mp (List.forall_mem_cons.mp (hb ▸ h.2)).2
      · trivial
    case endNotIn =>
      split
      · exact stepOk_backtrack (s := ⟨s.core.consume text _, s.bt⟩) h.2
      · exact ⟨I.ctrl (I.consume h.1 _), h.2⟩
    case startLoop => exact stepOk_startLoop I h
    case stopLoop => exact hjump
    case startVar => exact ⟨I.ctrl (I.pushVar h.1 _), h.2⟩
    case endVar =>
      split
      · trivial
      · next rest hv =>
        split
        · trivial
        · have h1 : P { s.core with vars := rest } :=
            I.frame h.1 (hv ▸ List.subset_cons_self _ _) (I.env h.1) (I.loops h.1)
          exact ⟨I.ctrl (I.insertVar h1 _ (I.drop _ _)), h.2⟩
    case startSub => exact hjump
    case endSub =>
      split
      · trivial
      · split
        · exact hjump
        · split
          · trivial
          · trivial
          · split
            · exact hjump
            · exact stepOk_backtrack h.2
    case jump => exact hjump

theorem run_preserves (pf : Nat) (prog : List Instr) :
    ∀ n s c, s.All P → run pf prog text n s = some (.success c) → P c := by
  intro n
  induction n with
  | zero => intro s c _ h; simp [run] at h
  | succ n ih =>
    intro s c hs h
    unfold run at h
    split at h
    · cases h; exact hs.1
    · have hok := stepOk_step I pf prog hs
      split at h
      · next ho => cases h; rw [ho] at hok; exact hok
      · next hs' => rw [hs'] at hok; exact ih _ c hok h

end

/-! ## the location invariant (C03)

`Inv text p0 c`: the state `c` of an attempt started at `p0` has consumed exactly `text[p0, c.pos)`, its line/column
counters are those of `c.pos`, and every captured string (in the environment and in the named-loop maps on the loop
stack) is a substring of what has been consumed. -/

structure Inv (text : Bytes) (p0 : Nat) (c : Core) : Prop where
  p0_le : p0 ≤ text.length
  pos_eq : c.pos = p0 + c.cur.length
  take_eq : text.take c.pos = text.take p0 ++ c.cur
  pos_le : c.pos ≤ text.length
  line_eq : c.line = lineOf text c.pos
  col_eq : c.col = colOf text c.pos
  env_sub : mapSubB c.cur c.env = true
  loops_sub : ∀ l ∈ c.loops, mapSubB c.cur l.vars = true
  vars_le : ∀ r ∈ c.vars, r.2 ≤ c.cur.length

theorem Inv.consume {text p0 c} (h : Inv text p0 c) (n : Nat) : Inv text p0 (c.consume text n) := by
  have hs := readAt_spec text c.pos n
  unfold Core.consume
  simp only
  rw [h.line_eq, h.col_eq, advance_readAt]
  refine ⟨h.p0_le, ?_, ?_, hs.2 h.pos_le, rfl, rfl, mapSubB_append h.env_sub,
    fun l hl => mapSubB_append (h.loops_sub l hl), ?_⟩
  · simp [h.pos_eq]; omega
  · rw [hs.1, h.take_eq, List.append_assoc]
  · intro r hr; have := h.vars_le r hr; simp; omega

theorem Inv.preserved (text : Bytes) (p0 : Nat) :
    Preserved text (Inv text p0) (fun w m => mapSubB w m = true) (fun w v => valSubB w v = true) where
  env h := h.env_sub
  loops h := h.loops_sub
  frame h := fun hvars henv hloops =>
    { h with env_sub := henv, loops_sub := hloops, vars_le := fun r hr => h.vars_le r (hvars hr) }
  consume h n := h.consume n
  pushVar h x := { h with vars_le := List.forall_mem_cons.mpr ⟨Nat.le_refl _, h.vars_le⟩ }
  nil _ := rfl
  put := mapSubB_put
  get := mapSubB_get
  map := by simp only [valSubB, implies_true]
  drop w n := by simp only [valSubB]; exact infixB_drop w n

end Vore

import Vore.Model.Gen
/-!
# Vore.Lemmas.GenCF — the code generator on the call-free fragment, as a pure function

`genCF e off nid` is what `gen e off st` emits when `e` contains no subroutine and no named loop and
the scope holds only captures (`gen_eq_genCF`).  It threads only the loop-id counter.
-/
namespace Vore

/-- no subroutines, no named loops, `in` lists non-empty -/
def CallFree : Expr → Prop
  | .empty => True
  | .seq a b => CallFree a ∧ CallFree b
  | .atom _ => True
  | .var _ => True
  | .loop _ _ _ name body => name = "" ∧ CallFree body
  | .branch l r => CallFree l ∧ CallFree r
  | .dec _ body => CallFree body
  | .sub _ _ => False
  | .inl neg items => neg = true ∨ items ≠ []

def repCF (g : Nat → Nat → List Instr × Nat) : Nat → Nat → Nat → List Instr × Nat
  | 0, _, nid => ([], nid)
  | n + 1, off, nid =>
    let r := g off nid
    let rs := repCF g n (off + r.1.length) r.2
    (r.1 ++ rs.1, rs.2)

def loopMax (mn : Nat) (mx : Int) : Int := if mx > 0 then mx - mn else mx

def genCF : Expr → Nat → Nat → List Instr × Nat
  | .empty, _, nid => ([], nid)
  | .seq a b, off, nid =>
    let ra := genCF a off nid
    let rb := genCF b (off + ra.1.length) ra.2
    (ra.1 ++ rb.1, rb.2)
  | .atom a, _, nid => ([genAtom a], nid)
  | .var x, _, nid => ([.mvar x], nid)
  | .loop mn mx fewest _ body, off, nid =>
    let pre := repCF (genCF body) mn off nid
    let cur := off + pre.1.length
    if (mn : Int) == mx then pre else
    let rb := genCF body (cur + 1) pre.2
    (pre.1 ++ [.startLoop rb.2 0 (loopMax mn mx) fewest (cur + rb.1.length + 1) ""] ++ rb.1 ++ [.stopLoop rb.2 cur], rb.2 + 1)
  | .branch l r, off, nid =>
    let rl := genCF l (off + 1) nid
    let rr := genCF r (off + 2 + rl.1.length) rl.2
    let e := off + rl.1.length + rr.1.length + 3
    ([.branch [off + 1, off + rl.1.length + 2]] ++ rl.1 ++ [.jump e] ++ rr.1 ++ [.jump e], rr.2)
  | .dec x body, off, nid =>
    let rb := genCF body (off + 1) nid
    ([.startVar x] ++ rb.1 ++ [.endVar x], rb.2)
  | .sub _ _, _, nid => ([], nid)
  | .inl false items, off, nid =>
    ([.branch ((List.range items.length).map (fun i => off + 1 + 2 * i))] ++ genInItems items (off + 1 + 2 * items.length), nid)
  | .inl true items, off, nid => (genNotInItems items off ++ [.endNotIn (listMaxSize items)], nid)

def codeLen : Expr → Nat
  | .empty => 0
  | .seq a b => codeLen a + codeLen b
  | .atom _ => 1
  | .var _ => 1
  | .loop mn mx _ _ body => if (mn : Int) == mx then mn * codeLen body else mn * codeLen body + codeLen body + 2
  | .branch l r => codeLen l + codeLen r + 3
  | .dec _ body => codeLen body + 2
  | .sub _ _ => 0
  | .inl false items => 1 + 2 * items.length
  | .inl true items => 3 * items.length + 1

theorem genInItems_length (items : List Atom) (e : Nat) : (genInItems items e).length = 2 * items.length := by
  simp [genInItems, List.length_flatMap, List.map_const', Nat.mul_comm]

theorem genNotInItems_length (items : List Atom) (pc : Nat) : (genNotInItems items pc).length = 3 * items.length := by
  induction items generalizing pc with
  | nil => rfl
  | cons a rest ih =>
    simp [genNotInItems, ih]
    omega

end Vore

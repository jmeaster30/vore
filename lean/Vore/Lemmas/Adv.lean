import Vore.Spec.Atoms
/-!
# Vore.Lemmas.Adv — what a leaf does to the data

A leaf that succeeds returns its data after a `consumeD` — of nothing for the leaves that leave it as it is (anchors, the
`whole…` classes off their start, an empty back-reference); literals, ranges and the one-byte classes always consume at
least one byte.
-/
namespace Vore
open Vore.Spec

theorem consumeD_zero (text : Bytes) (d : Data) : consumeD text d 0 = d := by
  simp [consumeD, readAt, advance]

/-- `d'` is `d` after a `CONSUME` (of nothing, for a leaf that succeeds without reading); the consuming kinds of leaf
(`strict`) read at least one byte -/
def AdvS (text : Bytes) (strict : Bool) (d d' : Data) : Prop :=
  ∃ n, d' = consumeD text d n ∧ (strict = true → readAt text d.pos n ≠ [])

abbrev Adv (text : Bytes) (d d' : Data) : Prop := AdvS text false d d'

theorem AdvS.adv {text : Bytes} {s : Bool} {d d' : Data} (h : AdvS text s d d') : Adv text d d' :=
  h.elim fun n hn => ⟨n, hn.1, nofun⟩

theorem AdvS.refl {text : Bytes} {d : Data} : Adv text d d := ⟨0, (consumeD_zero text d).symm, nofun⟩

/-- what a consuming leaf returns: `consumeD text d n` behind its test that the `n` bytes are there -/
theorem advS_consume {text : Bytes} {d d' : Data} {n : Nat} (hne : (readAt text d.pos n == []) ≠ true)
    (h : some (consumeD text d n) = some d') : AdvS text true d d' := by
  cases h
  exact ⟨n, rfl, fun _ h0 => hne (by rw [h0]; rfl)⟩

def clsConsumes : Class → Bool
  | .any | .whitespace | .digit | .upper | .lower | .letter => true
  | _ => false

def atomConsumes : Atom → Bool
  | .str _ _ _ => true
  | .cls _ c => clsConsumes c
  | .range _ _ => true

theorem ite_some {α : Type} {c : Prop} [Decidable c] {x y : Option α} {a : α} (h : (if c then x else y) = some a) :
    (c ∧ x = some a) ∨ (¬c ∧ y = some a) := by
  split at h
  · exact .inl ⟨‹c›, h⟩
  · exact .inr ⟨‹¬c›, h⟩

theorem adv_anchor {text : Bytes} {d d' : Data} {c n : Bool} (h : anchorD d c n = some d') : Adv text d d' := by
  unfold anchorD at h
  cases (Option.ite_none_right_eq_some.mp h).2
  exact .refl

/-- a plain literal (not negated, case-sensitive, non-empty) matches iff the input continues with it -/
theorem litD_plain {text v : Bytes} (hv : v ≠ []) (d : Data) :
    litD text v false false d = if readAt text d.pos v.length = v then some (consumeD text d v.length) else none := by
  unfold litD
  by_cases h : readAt text d.pos v.length = v
  · simp [h, hv]
  · have : (v == readAt text d.pos v.length) = false := beq_eq_false_iff_ne.mpr (Ne.symm h)
    simp [h, this]

theorem advS_lit {text : Bytes} {d d' : Data} {v : Bytes} {n c : Bool} (h : litD text v n c d = some d') :
    AdvS text true d d' := by
  unfold litD at h
  obtain ⟨h1, h⟩ := Option.ite_none_left_eq_some.mp h
  cases (Option.ite_none_right_eq_some.mp h).2
  exact ⟨_, rfl, fun _ h0 => h1 (by rw [h0]; rfl)⟩

/-- a range, of either polarity, needs a character: whatever it matches is non-empty (fix f73d71e in /repo) -/
theorem advS_rangeLoop {text : Bytes} {d d' : Data} {lo hi : Bytes} {n : Bool} :
    ∀ k, rangeLoopD text lo hi n d k = some d' → AdvS text true d d'
  | 0, h => by cases h
  | k + 1, h => by
    unfold rangeLoopD at h
    rcases ite_some h with ⟨_, h⟩ | ⟨hne, h⟩
    · exact advS_rangeLoop k h
    · rcases ite_some h with ⟨_, h⟩ | ⟨_, h⟩
      · exact advS_consume hne h
      · exact advS_rangeLoop k h

theorem advS_range {text : Bytes} {d d' : Data} {lo hi : Bytes} {n : Bool} (h : rangeD text lo hi n d = some d') :
    AdvS text true d d' := advS_rangeLoop _ h

theorem advS_class {text : Bytes} {d d' : Data} {c : Class} {n : Bool} (h : classD text c n d = some d') :
    AdvS text (clsConsumes c) d d' := by
  cases c with
  | any =>
    unfold classD at h
    obtain ⟨-, h⟩ := Option.ite_none_left_eq_some.mp h
    obtain ⟨hne, h⟩ := Option.ite_none_left_eq_some.mp h
    exact advS_consume hne h
  | whitespace | letter =>
    unfold classD at h
    obtain ⟨hne, h⟩ := Option.ite_none_left_eq_some.mp h
    rcases ite_some h with ⟨_, h⟩ | ⟨_, h⟩
    · exact advS_consume hne (Option.ite_none_left_eq_some.mp h).2
    · exact advS_consume hne (Option.ite_none_right_eq_some.mp h).2
  | digit | upper | lower => exact advS_range h
  | fileStart | fileEnd | lineEnd => exact adv_anchor h
  | lineStart =>
    unfold classD at h
    rcases ite_some h with ⟨_, h⟩ | ⟨_, h⟩ <;> exact adv_anchor h
  | wordStart | wordEnd =>
    unfold classD at h
    rcases ite_some h with ⟨_, h⟩ | ⟨_, h⟩
    · exact adv_anchor h
    · rcases ite_some h with ⟨_, h⟩ | ⟨_, h⟩ <;> exact adv_anchor h
  | wholeFile | wholeLine | wholeWord =>
    unfold classD at h
    rcases ite_some h with ⟨_, h⟩ | ⟨_, h⟩
    · cases (Option.ite_none_right_eq_some.mp h).2
      exact .refl
    · cases (Option.ite_none_left_eq_some.mp h).2
      exact ⟨_, rfl, nofun⟩

theorem advS_atom {text : Bytes} {d d' : Data} {a : Atom} (h : atomD text a d = some d') :
    AdvS text (atomConsumes a) d d' := by
  cases a with
  | str n c s => exact advS_lit h
  | cls n c => exact advS_class h
  | range lo hi => exact advS_range h

/-- (`C02_backref`) -/
theorem backrefD_eq_some {text : Bytes} {x : String} {d d' : Data} :
    backrefD text x d = some d' ↔
      ∃ v, d.env.get x = some (.str v) ∧
        ((v = [] ∧ d' = d) ∨ (v ≠ [] ∧ readAt text d.pos v.length = v ∧ d' = consumeD text d v.length)) := by
  unfold backrefD
  cases d.env.get x with
  | none => simp
  | some val =>
    cases val with
    | map m => simp
    | str v =>
      by_cases hv : v = []
      · subst hv; simp [eq_comm (a := d)]
      · simp [hv, litD_plain hv, eq_comm (a := d')]

theorem adv_backref {text : Bytes} {d d' : Data} {x : String} (h : backrefD text x d = some d') : Adv text d d' := by
  obtain ⟨v, -, ⟨-, rfl⟩ | ⟨-, -, rfl⟩⟩ := backrefD_eq_some.mp h
  · exact .refl
  · exact ⟨_, rfl, nofun⟩

end Vore

import Vore.Model.Json
import Vore.Lemmas.Locate
/-!
# Vore.Lemmas.Json — round trip and well-formedness lemmas for the JSON tree (C17)
-/
namespace Vore

/-! `VMap.WF` is defined in Model/Json.lean, hence its facts stand here (`get`/`put` themselves: Locate.lean). -/

theorem VMap.get_put_same (f : VMap) (k : String) (v : Val) : (f.put k v).get k = some v := by
  simp [VMap.get_put]

theorem VMap.wf_nil : VMap.nil.WF := trivial

theorem VMap.wf_put {f : VMap} {v : Val} (hf : f.WF) (hv : v.WF) (k : String) : (f.put k v).WF := by
  match f with
  | .nil => simp [VMap.put, VMap.WF, VMap.get, hv]
  | .cons k' w rest =>
    simp only [VMap.WF] at hf
    by_cases h : k' = k
    · subst h; simp [VMap.put, VMap.WF, hv, hf.2.2, hf.1]
    · simp only [VMap.put, h, beq_iff_eq, if_false, VMap.WF]
      -- `k'` is still absent from the rest after a `put` of another key
      refine ⟨?_, hf.2.1, VMap.wf_put hf.2.2 hv k⟩
      rw [VMap.get_put, if_neg (Ne.symm h)]
      exact hf.1

theorem VMap.wf_get {k : String} {v : Val} : ∀ {m : VMap}, m.WF → m.get k = some v → v.WF
  | .nil, _, h => by simp [VMap.get] at h
  | .cons k' w rest, hm, h => by
    simp only [VMap.WF] at hm
    simp only [VMap.get] at h
    split at h
    · cases h; exact hm.2.1
    · exact VMap.wf_get hm.2.2 h

theorem JFields.get_put (f : JFields) (k x : String) (v : Json) :
    (f.put k v).get x = if k = x then some v else f.get x := by
  match f with
  | .nil => simp [JFields.put, JFields.get]
  | .cons k' w rest =>
    by_cases h : k' = k
    · subst h; by_cases h' : k' = x <;> simp [JFields.put, JFields.get, h']
    · by_cases h' : k' = x
      · subst h'; simp [JFields.put, JFields.get, h, Ne.symm h]
      · simp [JFields.put, JFields.get, h, h', JFields.get_put rest k x v]

theorem JFields.get_put_same (f : JFields) (k : String) (v : Json) : (f.put k v).get k = some v := by
  simp [JFields.get_put]

theorem JFields.keys_put_of_none (f : JFields) (k : String) (v : Json) (h : f.get k = none) :
    (f.put k v).keys = f.keys ++ [k] := by
  match f with
  | .nil => simp [JFields.put, JFields.keys]
  | .cons k' w rest =>
    by_cases h' : k' = k
    · simp [JFields.get, h'] at h
    · simp [JFields.get, h'] at h
      simp [JFields.put, JFields.keys, h', JFields.keys_put_of_none rest k v h]

theorem JFields.wf_put (f : JFields) (k : String) (v : Json) (hf : f.WF) (hv : v.WF) : (f.put k v).WF := by
  match f with
  | .nil => simp [JFields.put, JFields.WF, JFields.get, hv]
  | .cons k' w rest =>
    simp only [JFields.WF] at hf
    by_cases h : k' = k
    · subst h; simp [JFields.put, JFields.WF, hv, hf.2.2, hf.1]
    · simp only [JFields.put, h, beq_iff_eq, if_false, JFields.WF]
      refine ⟨?_, hf.2.1, JFields.wf_put rest k v hf.2.2 hv⟩
      rw [JFields.get_put, if_neg (Ne.symm h)]
      exact hf.1

theorem Json.get_ofVMap (m : VMap) (k : String) : (ofVMap m).get k = (m.get k).map ofVal := by
  match m with
  | .nil => rfl
  | .cons k' v rest => by_cases h : k' = k <;> simp [ofVMap, JFields.get, VMap.get, h, Json.get_ofVMap rest k]

mutual
theorem Json.wf_ofVal : ∀ v : Val, v.WF → (ofVal v).WF
  | .str s, _ => by simp [ofVal, Json.WF]
  | .map m, h => by
    simp [Val.WF] at h
    simp [ofVal, Json.WF, Json.wf_ofVMap m h]
theorem Json.wf_ofVMap : ∀ m : VMap, m.WF → (ofVMap m).WF
  | .nil, _ => by simp [ofVMap, JFields.WF]
  | .cons k v rest, h => by
    simp [VMap.WF] at h
    simp [ofVMap, JFields.WF, Json.get_ofVMap, h.1, Json.wf_ofVal v h.2.1, Json.wf_ofVMap rest h.2.2]
end

mutual
theorem Json.decodeVal_ofVal : ∀ v : Val, decodeVal (ofVal v) = some v
  | .str s => by simp [ofVal, decodeVal]
  | .map m => by simp [ofVal, decodeVal, Json.decodeVMap_ofVMap m]
theorem Json.decodeVMap_ofVMap : ∀ m : VMap, decodeVMap (ofVMap m) = some m
  | .nil => by simp [ofVMap, decodeVMap]
  | .cons k v rest => by simp [ofVMap, decodeVMap, Json.decodeVal_ofVal v, Json.decodeVMap_ofVMap rest]
end

theorem Json.decodeNat_num (n : Nat) : decodeNat (.num (n : Int)) = some n := by
  simp [decodeNat]

theorem Json.decodeRange_ofRange (s e : Nat) : decodeRange (ofRange s e) = some (s, e) := by
  simp [ofRange, decodeRange, JFields.put, JFields.get, JFields.keys, Json.decodeNat_num]

theorem Json.wf_ofRange (s e : Nat) : (ofRange s e).WF := by
  simp [ofRange, Json.WF, JFields.put, JFields.WF, JFields.get]

/-- the assignments of `Match.MarshalJSON` as an explicit member list: the lemmas about one match object evaluate on it -/
theorem Json.matchFields_eq (fm : FileMatch) :
    matchFields fm =
      .cons "filename" (.str fm.filename) (.cons "matchNumber" (.num fm.m.number)
        (.cons "offset" (ofRange fm.m.startPos fm.m.endPos) (.cons "line" (ofRange fm.m.startLine fm.m.endLine)
        (.cons "column" (ofRange fm.m.startCol fm.m.endCol) (.cons "value" (.str fm.m.value)
        (match fm.m.replacement with
          | some x => .cons "replacement" (.str x) (.cons "variables" (.obj (ofVMap fm.m.vars)) .nil)
          | none => .cons "variables" (.obj (ofVMap fm.m.vars)) .nil)))))) := by
  cases h : fm.m.replacement <;> simp [matchFields, h, JFields.put]

theorem Json.decodeMatch_ofMatch (fm : FileMatch) : decodeMatch (ofMatch fm) = some fm := by
  -- taken apart so that the record built from the decoded members is syntactically `fm`
  obtain ⟨fname, m⟩ := fm
  obtain ⟨nr, sp, ep, sl, el, sc, ec, val, vars, repl⟩ := m
  cases repl <;>
    simp [ofMatch, Json.matchFields_eq, decodeMatch, JFields.get, JFields.keys, matchKeys, decodeStr,
      Json.decodeNat_num, Json.decodeRange_ofRange, decodeOptStr, decodeVars, Json.decodeVMap_ofVMap]

theorem Json.wf_ofMatch (fm : FileMatch) (h : fm.m.vars.WF) : (ofMatch fm).WF := by
  cases hr : fm.m.replacement <;>
    simp [ofMatch, Json.matchFields_eq, hr, Json.WF, JFields.WF, JFields.get, Json.wf_ofRange,
      Json.wf_ofVMap fm.m.vars h]

theorem Json.replacement_member (fm : FileMatch) :
    (ofMatch fm).member? "replacement" = fm.m.replacement.map Json.str := by
  cases hr : fm.m.replacement <;> simp [ofMatch, member?, matchFields, hr, JFields.get_put, JFields.get]

theorem Json.decodeList_ofList (ms : List FileMatch) :
    decodeList (JList.ofList (ms.map ofMatch)) = some ms := by
  induction ms with
  | nil => simp [JList.ofList, decodeList]
  | cons m ms ih => simp [JList.ofList, decodeList, Json.decodeMatch_ofMatch, ih]

theorem Json.wf_ofList (ms : List FileMatch) (h : ∀ fm ∈ ms, fm.m.vars.WF) :
    (JList.ofList (ms.map ofMatch)).WF := by
  induction ms with
  | nil => simp [JList.ofList, JList.WF]
  | cons m ms ih =>
    obtain ⟨hm, hms⟩ := List.forall_mem_cons.mp h
    simp only [List.map_cons, JList.ofList, JList.WF]
    exact ⟨Json.wf_ofMatch m hm, ih hms⟩

theorem JList.toList_ofList (xs : List Json) : (JList.ofList xs).toList = xs := by
  induction xs with
  | nil => simp [JList.ofList, JList.toList]
  | cons x xs ih => simp [JList.ofList, JList.toList, ih]

theorem utf8Fix_ascii (s : Bytes) (h : ∀ b ∈ s, b < 0x80) : utf8Fix s = s := by
  unfold utf8Fix
  induction s with
  | nil => rfl
  | cons b rest ih =>
    obtain ⟨hb, hrest⟩ := List.forall_mem_cons.mp h
    simp [utf8FixAux, hb, ih hrest]

mutual
theorem Json.coerce_ofVal : ∀ v : Val, (ofVal v).coerce = ofVal v.coerce
  | .str s => by simp [ofVal, Json.coerce, Val.coerce]
  | .map m => by simp [ofVal, Json.coerce, Val.coerce, Json.coerce_ofVMap m]
theorem Json.coerce_ofVMap : ∀ m : VMap, (ofVMap m).coerce = ofVMap m.coerce
  | .nil => by simp [ofVMap, JFields.coerce, VMap.coerce]
  | .cons k v rest => by
    simp [ofVMap, JFields.coerce, VMap.coerce, Json.coerce_ofVal v, Json.coerce_ofVMap rest]
end

theorem Json.coerce_ofRange (s e : Nat) : (ofRange s e).coerce = ofRange s e := by
  simp [ofRange, JFields.put, Json.coerce, JFields.coerce]

theorem Json.coerce_ofMatch (fm : FileMatch) : (ofMatch fm).coerce = ofMatch fm.coerce := by
  cases hr : fm.m.replacement <;>
    simp [ofMatch, Json.matchFields_eq, hr, FileMatch.coerce, Json.coerce, JFields.coerce,
      Json.coerce_ofRange, Json.coerce_ofVMap]

theorem Json.coerce_ofList (ms : List FileMatch) :
    (JList.ofList (ms.map ofMatch)).coerce = JList.ofList ((ms.map FileMatch.coerce).map ofMatch) := by
  induction ms with
  | nil => simp [JList.ofList, JList.coerce]
  | cons m ms ih => simp [JList.ofList, JList.coerce, Json.coerce_ofMatch, ih]

theorem Json.coerce_ofMatches (ms : List FileMatch) :
    (ofMatches ms).coerce = ofMatches (ms.map FileMatch.coerce) := by
  simp [ofMatches, Json.coerce, Json.coerce_ofList]

end Vore

import Vore.Spec.Outs
import Vore.Lemmas.Adv
import Vore.Lemmas.Locate
/-!
# Vore.Lemmas.Outs — the continuation semantics visits exactly the list of successes, in order

`m text lf e d ks fk = firstK (outs text lf e d) ks fk` for good data and loop fuel `lf > |text|`: the
two-continuation semantics offers to `ks` exactly the elements of `outs`, in that order, each with "the rest of
the list" as its failure continuation.  This holds for every `e`: a `sub` node, outside this semantics, offers
nothing in either.  Corollary: `attempt` is the head of `outs` — "the first complete match in priority order",
read declaratively.  Good data is data within the text that starts at `p0`; leaves keep it good and never
shorten what was consumed (`AdvS.good`).
-/
namespace Vore
open Vore.Spec

def Good (text : Bytes) (p0 : Nat) (d : Data) : Prop := d.pos ≤ text.length ∧ d.pos = p0 + d.cur.length

theorem good_len {text : Bytes} {p0 : Nat} {d : Data} (hg : Good text p0 d) : d.cur.length ≤ text.length := by
  have := hg.1; have := hg.2; omega

theorem consumeD_length (text : Bytes) (d : Data) (n : Nat) :
    (consumeD text d n).cur.length = d.cur.length + (readAt text d.pos n).length :=
  List.length_append

theorem good_consume {text : Bytes} {p0 : Nat} {d : Data} (h : Good text p0 d) (n : Nat) :
    Good text p0 (consumeD text d n) ∧ d.cur.length ≤ (consumeD text d n).cur.length := by
  have hs := (readAt_spec text d.pos n).2 h.1
  have h2 := h.2
  simp only [consumeD, Good, List.length_append]
  exact ⟨⟨hs, by omega⟩, by omega⟩

theorem AdvS.good {text : Bytes} {p0 : Nat} {s : Bool} {d d' : Data} (h : AdvS text s d d') (hg : Good text p0 d) :
    Good text p0 d' ∧ d.cur.length + s.toNat ≤ d'.cur.length := by
  obtain ⟨n, rfl, hne⟩ := h
  refine ⟨(good_consume hg n).1, ?_⟩
  rw [consumeD_length]
  refine Nat.add_le_add_left ?_ _
  cases s with
  | false => exact Nat.zero_le _
  | true => exact List.length_pos_iff.mpr (hne rfl)

theorem firstK_append (l1 l2 : List Data) (ks : SK) (fk : FK) :
    firstK (l1 ++ l2) ks fk = firstK l1 ks (fun _ => firstK l2 ks fk) := by
  induction l1 with
  | nil => rfl
  | cons d rest ih => simp only [List.cons_append, firstK, ih]

theorem firstK_flatMap (l : List Data) (f : Data → List Data) (ks : SK) (fk : FK) :
    firstK (l.flatMap f) ks fk = firstK l (fun d fk' => firstK (f d) ks fk') fk := by
  induction l with
  | nil => rfl
  | cons d rest ih => simp only [List.flatMap_cons, firstK_append, firstK, ih]

theorem firstK_map (l : List Data) (g : Data → Data) (ks : SK) (fk : FK) :
    firstK (l.map g) ks fk = firstK l (fun d fk' => ks (g d) fk') fk := by
  induction l with
  | nil => rfl
  | cons d rest ih => simp only [List.map_cons, firstK, ih]

theorem firstK_congr (l : List Data) (ks1 ks2 : SK) (fk : FK)
    (h : ∀ d ∈ l, ∀ fk', ks1 d fk' = ks2 d fk') : firstK l ks1 fk = firstK l ks2 fk := by
  induction l with
  | nil => rfl
  | cons d rest ih =>
    simp only [firstK]
    rw [h d List.mem_cons_self, ih (fun d' hd' => h d' (List.mem_cons_of_mem _ hd'))]

section
variable {text : Bytes} {p0 : Nat}

def AllFrom (text : Bytes) (p0 : Nat) (len : Nat) (l : List Data) : Prop :=
  ∀ d' ∈ l, Good text p0 d' ∧ len ≤ d'.cur.length

theorem AllFrom.flatMap {len : Nat} {l : List Data} {f : Data → List Data} (hl : AllFrom text p0 len l)
    (hf : ∀ d ∈ l, AllFrom text p0 d.cur.length (f d)) : AllFrom text p0 len (l.flatMap f) := by
  intro d' hd'
  obtain ⟨d, hd, hdd⟩ := List.mem_flatMap.mp hd'
  have a := hl d hd
  have b := hf d hd d' hdd
  exact ⟨b.1, Nat.le_trans a.2 b.2⟩

/-- the computation `r` — a matcher applied to its data — offers to its success continuation the elements of `l`,
in order, each with "the rest of the list" as failure continuation; they are good data at least as long as `len` -/
def VisitsAt (text : Bytes) (p0 : Nat) (len : Nat) (r : SK → FK → Option SRes) (l : List Data) : Prop :=
  AllFrom text p0 len l ∧ ∀ ks fk, r ks fk = firstK l ks fk

def Visits (text : Bytes) (p0 : Nat) (mb : Data → SK → FK → Option SRes) (ob : Data → List Data) : Prop :=
  ∀ d, Good text p0 d → VisitsAt text p0 d.cur.length (mb d) (ob d)

theorem VisitsAt.nil {len : Nat} : VisitsAt text p0 len (fun _ fk => fk ()) [] :=
  ⟨fun _ h => (nomatch h), fun _ _ => rfl⟩

theorem VisitsAt.pure {len : Nat} {d : Data} (hg : Good text p0 d) (hle : len ≤ d.cur.length) :
    VisitsAt text p0 len (fun ks fk => ks d fk) [d] :=
  ⟨List.forall_mem_singleton.mpr ⟨hg, hle⟩, fun _ _ => rfl⟩

-- the hypothesis is not a named binder: `match o` in the statement would abstract over it as well
theorem VisitsAt.ofOption {len : Nat} {o : Option Data} :
    (∀ d', o = some d' → Good text p0 d' ∧ len ≤ d'.cur.length) →
    VisitsAt text p0 len (fun ks fk => match o with | some d' => ks d' fk | none => fk ()) o.toList := by
  intro h
  cases o with
  | none => exact .nil
  | some d' => exact .pure (h d' rfl).1 (h d' rfl).2

theorem VisitsAt.ite {len : Nat} {c : Prop} [Decidable c] {r1 r2 : SK → FK → Option SRes} {l1 l2 : List Data}
    (h1 : c → VisitsAt text p0 len r1 l1) (h2 : ¬c → VisitsAt text p0 len r2 l2) :
    VisitsAt text p0 len (fun ks fk => if c then r1 ks fk else r2 ks fk) (if c then l1 else l2) := by
  by_cases hc : c
  · simp only [hc, if_true]; exact h1 hc
  · simp only [hc, if_false]; exact h2 hc

theorem VisitsAt.append {len : Nat} {r1 r2 : SK → FK → Option SRes} {l1 l2 : List Data}
    (h1 : VisitsAt text p0 len r1 l1) (h2 : VisitsAt text p0 len r2 l2) :
    VisitsAt text p0 len (fun ks fk => r1 ks (fun _ => r2 ks fk)) (l1 ++ l2) :=
  ⟨List.forall_mem_append.mpr ⟨h1.1, h2.1⟩, fun ks fk => by simp only [firstK_append, h1.2, h2.2]⟩

theorem VisitsAt.bind {len : Nat} {r : SK → FK → Option SRes} {l : List Data} {mb : Data → SK → FK → Option SRes}
    {ob : Data → List Data} (h : VisitsAt text p0 len r l)
    (hb : ∀ d1, Good text p0 d1 → len ≤ d1.cur.length → VisitsAt text p0 d1.cur.length (mb d1) (ob d1)) :
    VisitsAt text p0 len (fun ks fk => r (fun d1 fk1 => mb d1 ks fk1) fk) (l.flatMap ob) := by
  refine ⟨h.1.flatMap (fun d1 hd1 => (hb d1 (h.1 d1 hd1).1 (h.1 d1 hd1).2).1), fun ks fk => ?_⟩
  simp only [h.2, firstK_flatMap]
  exact firstK_congr _ _ _ _ (fun d1 hd1 fk1 => (hb d1 (h.1 d1 hd1).1 (h.1 d1 hd1).2).2 ks fk1)

theorem repeat_visits {mb ob} (h : Visits text p0 mb ob) : ∀ n, Visits text p0 (Spec.repeatM mb n) (repeatOuts ob n)
  | 0, _, hg => .pure hg (Nat.le_refl _)
  | n + 1, d, hg => (h d hg).bind (fun d1 hg1 _ => repeat_visits h n d1 hg1)

theorem loop_visits {mb ob} (h : Visits text p0 mb ob) (mx : Int) (fewest : Bool) :
    ∀ fuel k d, Good text p0 d → text.length - d.cur.length < fuel →
      VisitsAt text p0 d.cur.length (loopV mb mx fewest fuel k d) (loopOuts ob mx fewest fuel k d)
  | 0, _, _, _, hlt => by omega
  | fuel + 1, k, d, hg, hlt => by
    -- one more pass through the body; from each of its successes that consumed, the head again
    have hmore : VisitsAt text p0 d.cur.length
        (fun ks fk => mb d (fun d' fk' =>
          if d'.cur.length == d.cur.length then fk' () else loopV mb mx fewest fuel (k + 1) d' ks fk') fk)
        ((ob d).flatMap (fun d' =>
          if d'.cur.length == d.cur.length then [] else loopOuts ob mx fewest fuel (k + 1) d')) := by
      refine (h d hg).bind (fun d1 hg1 hle => .ite (fun _ => .nil) fun hne => ?_)
      have hlt1 : d.cur.length < d1.cur.length := Nat.lt_of_le_of_ne hle fun h => hne (beq_iff_eq.mpr h.symm)
      have hlen1 := good_len hg1
      exact loop_visits h mx fewest fuel (k + 1) d1 hg1 (by omega)
    -- the head: within the bound a `fewest` loop exits first, a greedy one iterates first; beyond it there is nothing
    exact .ite (fun _ => .ite (fun _ => (VisitsAt.pure hg (Nat.le_refl _)).append hmore)
      fun _ => hmore.append (.pure hg (Nat.le_refl _))) fun _ => .nil

theorem inAlts_eq_firstK (items : List Atom) (d : Data) (ks : SK) (fk : FK) :
    inAlts text items d ks fk = firstK (items.filterMap (fun a => atomD text a d)) ks fk := by
  induction items with
  | nil => rfl
  | cons a rest ih =>
    simp only [inAlts, List.filterMap_cons]
    cases atomD text a d with
    | none => exact ih
    | some d' => simp only [firstK, ih]

theorem inAlts_visits {strict : Bool} (items : List Atom) (hs : strict = true → ∀ a ∈ items, atomConsumes a = true)
    {d : Data} (hg : Good text p0 d) :
    VisitsAt text p0 (d.cur.length + strict.toNat) (inAlts text items d) (items.filterMap (fun a => atomD text a d)) := by
  refine ⟨fun d' hd' => ?_, inAlts_eq_firstK items d⟩
  obtain ⟨a, ham, ha⟩ := List.mem_filterMap.mp hd'
  have g := (advS_atom ha).good hg
  refine ⟨g.1, ?_⟩
  cases strict with
  | false => exact Nat.le_of_add_right_le g.2
  | true => rw [hs rfl a ham] at g; exact g.2

theorem m_visits (lf : Nat) (hlf : text.length < lf) (e : Expr) : Visits text p0 (m text lf e) (outs text lf e) := by
  induction e with
  | empty => exact fun d hg => .pure hg (Nat.le_refl _)
  | seq a b iha ihb => exact fun d hg => (iha d hg).bind (fun d1 hg1 _ => ihb d1 hg1)
  | atom a => exact fun d hg => .ofOption (fun d' h => (advS_atom h).adv.good hg)
  | var x => exact fun d hg => .ofOption (fun d' h => (adv_backref h).good hg)
  | loop mn mx fewest name body ih =>
    exact fun d hg => (repeat_visits ih mn d hg).bind fun d1 hg1 _ =>
      .ite (fun _ => .pure hg1 (Nat.le_refl _)) fun _ => loop_visits ih _ fewest lf 0 d1 hg1 (by omega)
  | branch l r ihl ihr => exact fun d hg => (ihl d hg).append (ihr d hg)
  | dec x body ih =>
    intro d hg
    obtain ⟨hall, heq⟩ := ih d hg
    -- `bindD` changes the bindings only, which neither `Good` nor the length of `cur` mentions
    exact ⟨List.forall_mem_map.mpr hall, fun ks fk => by simp only [m, outs, heq, firstK_map]⟩
  | sub x body _ => exact fun _ _ => .nil
  | inl neg items =>
    intro d hg
    cases neg with
    | false => exact inAlts_visits (strict := false) items (fun h => nomatch h) hg
    | true =>
      exact .ite (fun _ => .nil) fun _ => .ite (fun _ => .nil) fun _ => .pure (good_consume hg _).1 (good_consume hg _).2

end

/-- **the first complete match in priority order is the head of the list of all matches**: the attempt of
the continuation semantics at a start position answers exactly `attemptOuts` -/
theorem attempt_eq_head (text : Bytes) (lf : Nat) (hlf : text.length < lf) (e : Expr)
    (pos line col : Nat) (hpos : pos ≤ text.length) :
    attempt text lf e pos line col = some (attemptOuts text lf e pos line col) := by
  unfold attempt attemptOuts
  have hg : Good text pos ⟨pos, line, col, [], .nil⟩ := ⟨hpos, rfl⟩
  rw [(m_visits (p0 := pos) lf hlf e _ hg).2]
  cases outs text lf e ⟨pos, line, col, [], .nil⟩ <;> rfl

end Vore

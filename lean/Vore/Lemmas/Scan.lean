import Vore.Lemmas.VMInv
/-!
# Vore.Lemmas.Scan — the scan loop of `findMatches`: an invariant principle, and the faithful match list (C03)

`scan_invariant`: a property of the accumulator and the counters that reporting a hit and stepping over a miss keep
holds of what the loop returns; `findMatches_eq` is the entry of the loop.  C03 (`findMatches_faithful`) is the instance
`ScanOk`, with `Inv` (Lemmas/VMInv.lean) for the state a hit ends in; C17 and the prefix half of C04 are other instances.
-/
namespace Vore
open Vore.Spec

theorem chainOk_of_cons {a : Match} : ∀ {l : List Match}, chainOk (a :: l) = true → chainOk l = true
  | [], _ => rfl
  | b :: rest, h => by
    simp only [chainOk, Bool.and_eq_true] at h
    exact h.2

theorem chainOk_drop : ∀ {n : Nat} {l : List Match}, chainOk l = true → chainOk (l.drop n) = true
  | 0, _, h => h
  | _ + 1, [], _ => rfl
  | n + 1, _ :: l, h => chainOk_drop (n := n) (l := l) (chainOk_of_cons h)

theorem chainOk_snoc : ∀ {l : List Match} {m : Match}, chainOk l = true →
    (∀ a, l.getLast? = some a → a.endPos ≤ m.startPos ∧ m.number = a.number + 1) →
    chainOk (l ++ [m]) = true
  | [], m, _, _ => by simp [chainOk]
  | [a], m, _, hl => by
    have := hl a (by simp)
    simp [chainOk, this.1, this.2]
  | a :: b :: rest, m, h, hl => by
    simp only [chainOk, Bool.and_eq_true] at h
    have ih := chainOk_snoc (m := m) h.2 fun x hx => hl x (List.getLast?_cons_cons.trans hx)
    simp only [List.cons_append, chainOk, Bool.and_eq_true]
    exact ⟨h.1, ih⟩

theorem mem_of_mem_limitLast {n : Nat} {l : List Match} {m : Match} (h : m ∈ limitLast n l) : m ∈ l := by
  unfold limitLast at h
  split at h
  · exact List.mem_of_mem_drop h
  · exact h

/-- accumulated matches: each faithful, chained, the last one ends before `pos` and carries number `mn` -/
structure AccOk (text : Bytes) (skip : Nat) (acc : List Match) (mn pos : Nat) : Prop where
  all_ok : ∀ m ∈ acc, matchOk text m = true
  chain : chainOk acc = true
  last : ∀ a, acc.getLast? = some a → a.endPos ≤ pos ∧ a.number = mn
  before_skip : mn < skip → acc = []

theorem slice_of_take {text : Bytes} {p q : Nat} {v : Bytes} (hq : q = p + v.length)
    (h : text.take q = text.take p ++ v) : slice text p q = v := by
  subst hq
  rw [List.take_add] at h
  rw [slice, Nat.add_sub_cancel_left]
  exact List.append_cancel_left h

theorem matchOk_meaning (text : Bytes) (m : Match) (h : matchOk text m = true) :
    m.startPos < m.endPos ∧ m.endPos ≤ text.length ∧ m.value = slice text m.startPos m.endPos ∧
    m.startLine = lineOf text m.startPos ∧ m.endLine = lineOf text m.endPos ∧
    m.startCol = colOf text m.startPos ∧ m.endCol = colOf text m.endPos ∧ mapSubB m.value m.vars = true := by
  simpa only [matchOk, Bool.and_eq_true, decide_eq_true_eq, beq_iff_eq, and_assoc] using h

theorem matchOk_makeMatch {text : Bytes} {pos line col : Nat} {c : Core} (num : Nat)
    (hinv : Inv text pos c) (hl : line = lineOf text pos) (hc : col = colOf text pos)
    (hne : c.cur.length ≠ 0) : matchOk text (makeMatch num pos line col c) = true := by
  have hs : slice text pos c.pos = c.cur := slice_of_take hinv.pos_eq hinv.take_eq
  have hlt : pos < c.pos := by have := hinv.pos_eq; omega
  simp [matchOk, makeMatch, hs, hl, hc, hinv.line_eq, hinv.col_eq, hinv.env_sub, hinv.pos_le, hlt]

theorem accOk_nil {text : Bytes} {skip mn pos : Nat} : AccOk text skip [] mn pos :=
  ⟨by simp, rfl, by simp, fun _ => rfl⟩

theorem accOk_push {text skip acc mn pos} {m : Match} (last : Nat) (hacc : AccOk text skip acc mn pos)
    (hm : matchOk text m = true) (hs : pos ≤ m.startPos) (hn : m.number = mn + 1) (hsk : skip ≤ mn) :
    AccOk text skip (limitLast last (acc ++ [m])) (mn + 1) m.endPos := by
  -- before the `last` limit: the new match is faithful, follows the last one, and is the last
  have hfull : AccOk text skip (acc ++ [m]) (mn + 1) m.endPos := by
    refine ⟨List.forall_mem_append.mpr ⟨hacc.all_ok, List.forall_mem_singleton.mpr hm⟩,
      chainOk_snoc hacc.chain fun a ha => ?_, fun a ha => ?_, fun h => by omega⟩
    · have := hacc.last a ha
      exact ⟨Nat.le_trans this.1 hs, by rw [hn, this.2]⟩
    · simp at ha
      subst ha
      exact ⟨Nat.le_refl _, hn⟩
  -- the limit keeps a non-empty suffix
  unfold limitLast
  split
  · next hlast =>
    refine ⟨fun m hm => hfull.all_ok m (List.mem_of_mem_drop hm), chainOk_drop hfull.chain, fun a ha => ?_,
      fun h => by omega⟩
    apply hfull.last a
    simp at hlast
    rw [← ha, List.getLast?_drop, if_neg (by simp; omega)]
  · exact hfull

theorem classify_hit {r : Option Outcome} {c : Core} (h : classify r = .hit c) :
    r = some (.success c) ∧ c.cur.length ≠ 0 := by
  unfold classify at h
  split at h
  · cases h
  · cases h
  · cases h
  · split at h
    · next hne => cases h; exact ⟨rfl, by simpa using hne⟩
    · cases h
  · cases h

/-- the scan loop keeps `J` of its accumulator and counters, if reporting a non-empty successful attempt and moving
on by one byte after a failed one do; `R` is what `J` says of the result -/
theorem scan_invariant {pf vf : Nat} {prog : List Instr} {amt : Amount} {text : Bytes}
    {J : List Match → Nat → Nat → Nat → Nat → Prop} {R : List Match → Prop}
    (hit : ∀ {acc mn pos line col c}, J acc mn pos line col →
      run pf prog text vf (initState pos line col) = some (.success c) → c.cur.length ≠ 0 →
      J (if mn ≥ amt.skip then limitLast amt.last (acc ++ [makeMatch (mn + 1) pos line col c]) else acc)
        (mn + 1) c.pos c.line c.col)
    (miss : ∀ {acc mn pos line col b}, J acc mn pos line col → readAt text pos 1 = [b] →
      J acc mn (pos + 1) (advance line col [b]).1 (advance line col [b]).2)
    (fin : ∀ {acc mn pos line col}, J acc mn pos line col → R acc) :
    ∀ {f acc mn pos line col ms}, J acc mn pos line col →
      scan pf vf prog amt text f acc mn pos line col = some (.ok ms) → R ms := by
  intro f
  induction f with
  | zero => intro acc mn pos line col ms _ h; simp [scan] at h
  | succ f ih =>
    intro acc mn pos line col ms hJ h
    rw [scan] at h
    by_cases hstop : (!(amt.all || decide (mn < amt.skip + amt.take))) = true
    · rw [if_pos hstop] at h; cases h; exact fin hJ
    · rw [if_neg hstop] at h
      cases hcls : classify (run pf prog text vf (initState pos line col)) with
      | hit c =>
        obtain ⟨hrun, hne⟩ := classify_hit hcls
        have hJ' := hit hJ hrun hne
        simp only [hcls] at h
        by_cases hend : c.pos ≥ text.length
        · rw [if_pos hend] at h; cases h; exact fin hJ'
        · rw [if_neg hend] at h; exact ih hJ' h
      | miss =>
        simp only [hcls] at h
        rcases hb : readAt text pos 1 with _ | ⟨b, _ | _⟩
        · simp [hb] at h
        · have hJ' := miss hJ hb
          simp only [advance] at hJ'
          simp only [hb] at h
          by_cases hend : pos + 1 ≥ text.length
          · rw [if_pos hend] at h; cases h; exact fin hJ
          · rw [if_neg hend] at h; exact ih hJ' h
        · simp [hb] at h
      | _ => simp [hcls] at h

theorem initState_inv {text : Bytes} {pos line col : Nat} (hp : pos ≤ text.length)
    (hl : line = lineOf text pos) (hc : col = colOf text pos) : (initState pos line col).All (Inv text pos) :=
  ⟨⟨hp, rfl, by simp [initState], hp, hl, hc, rfl, by simp [initState], by simp [initState]⟩, by simp [initState]⟩

structure ScanOk (text : Bytes) (skip : Nat) (acc : List Match) (mn pos line col : Nat) : Prop where
  pos_le : pos ≤ text.length
  line_eq : line = lineOf text pos
  col_eq : col = colOf text pos
  acc : AccOk text skip acc mn pos

theorem scan_faithful {pf vf : Nat} {prog : List Instr} {amt : Amount} {text : Bytes} :
    ∀ {f acc mn pos line col ms}, ScanOk text amt.skip acc mn pos line col →
      scan pf vf prog amt text f acc mn pos line col = some (.ok ms) → faithful text ms = true := by
  intro f acc mn pos line col ms hJ h
  refine scan_invariant (J := ScanOk text amt.skip) (R := fun ms => faithful text ms = true) ?_ ?_ ?_ hJ h
  · intro acc mn pos line col c hJ hrun hne
    have hinv : Inv text pos c :=
      run_preserves (Inv.preserved text pos) pf prog vf _ c (initState_inv hJ.pos_le hJ.line_eq hJ.col_eq) hrun
    refine ⟨hinv.pos_le, hinv.line_eq, hinv.col_eq, ?_⟩
    split
    · next hsk =>
      exact accOk_push amt.last hJ.acc (matchOk_makeMatch (mn + 1) hinv hJ.line_eq hJ.col_eq hne) (Nat.le_refl _) rfl hsk
    · -- a skipped match: nothing has been reported yet
      have hnil := hJ.acc.before_skip (by omega)
      subst hnil
      exact accOk_nil
  · intro acc mn pos line col b hJ hb
    have hs := (readAt_spec text pos 1).2 hJ.pos_le
    have hadv := advance_readAt text pos 1
    rw [hb] at hs hadv
    rw [hJ.line_eq, hJ.col_eq, hadv]
    exact ⟨hs, rfl, rfl,
      { hJ.acc with last := fun a ha => ⟨Nat.le_succ_of_le (hJ.acc.last a ha).1, (hJ.acc.last a ha).2⟩ }⟩
  · intro acc mn pos line col hJ
    simp only [faithful, Bool.and_eq_true, List.all_eq_true]
    exact ⟨hJ.acc.all_ok, hJ.acc.chain⟩

theorem findMatches_eq (pf vf : Nat) (prog : List Instr) (amt : Amount) (text : Bytes) :
    findMatches pf vf prog amt text =
      if text.length = 0 ∨ prog.length = 0 then some (.ok []) else scan pf vf prog amt text (text.length + 1) [] 0 0 1 1 := by
  unfold findMatches
  by_cases h0 : text.length = 0
  · simp [h0]
  · by_cases h1 : prog.length = 0 <;> simp [h0, h1]

theorem findMatches_faithful (pf vf : Nat) (prog : List Instr) (amt : Amount) (text : Bytes) (ms : List Match)
    (h : findMatches pf vf prog amt text = some (.ok ms)) : faithful text ms = true := by
  rw [findMatches_eq] at h
  split at h
  · cases h; rfl
  · exact scan_faithful
      ⟨Nat.zero_le _, by simp [lineOf], by simp [colOf], accOk_nil⟩ h

end Vore

import Vore.Lemmas.LexTables
/-!
# Vore.Lemmas.LexString — the lexer's string states decode a spelling to the bytes it denotes
-/
namespace Vore.Lex
open Vore Vore.ExtractedLex

/-- SSTRING_SINGLE / SSTRING_DOUBLE -/
def Quote.st : Quote → St
  | .single => .stringSingle
  | .double => .stringDouble

/-- SSTRING_S_ESCAPE / SSTRING_D_ESCAPE -/
def Quote.escSt : Quote → St
  | .single => .stringSEscape
  | .double => .stringDEscape

theorem step_start_quote (q : Quote) : step .start q.byte = .next q.st false := by
  cases q <;> decide

theorem step_string (q : Quote) (c : UInt8) : step q.st c =
    if c = 92 then .next q.escSt false else if c = q.byte then .brk .stringEnd false else .next q.st true := by
  cases q <;> simp [step, Quote.st, Quote.escSt] <;> rfl

theorem step_esc (q : Quote) (c : UInt8) : step q.escSt c = .escape q.st := by
  cases q <;> simp [step, Quote.st, Quote.escSt]

theorem Quote.byte_ne_zero (q : Quote) : q.byte ≠ 0 := by cases q <;> simp [Quote.byte]

theorem Quote.byte_ne_backslash (q : Quote) : q.byte ≠ 92 := by cases q <;> simp [Quote.byte]

theorem writeRune_ascii (v : UInt8) (h : v < 128) : writeRune v = [v] := by simp [writeRune, h]

theorem docEscape_facts {l : UInt8} (h : (docEscape l).isSome) : l ≠ 0 ∧ l ≠ 120 ∧ (docEscape l).getD l < 128 := by
  have : ∀ k ∈ escapeLetters, k ≠ 0 ∧ k ≠ 120 ∧ (docEscape k).getD k < 128 := by decide
  exact this l (docEscape_isSome h)

theorem readEscape_plain (c : UInt8) (r : Reader) (h : c = 120 → ¬ twoHex r.rest) :
    ∃ l, readEscape c r = some (getEscapedRune c, ⟨r.rest, r.pos, l⟩) := by
  rcases readEscape_cases c r with ⟨a, b, zs, hc, hr, ha, hb, -⟩ | h'
  · rw [hr, twoHex, ← isHex_spec, ← isHex_spec] at h
    exact absurd ⟨ha, hb⟩ (h hc)
  · exact h'

theorem readEscape_hexVal {d1 d2 : UInt8} {cs : Bytes} {pos : Nat} {last : Option UInt8}
    (h1 : (hexVal d1).isSome) (h2 : (hexVal d2).isSome) :
    readEscape 120 ⟨d1 :: d2 :: cs, pos, last⟩ =
      some ((hexVal d1).getD 0 * 16 + (hexVal d2).getD 0, ⟨cs, pos + 2, some d2⟩) := by
  rw [readEscape_hex ((isHex_spec d1).trans h1) ((isHex_spec d2).trans h2), hexToAscii_spec d1 d2 h1 h2]
  rfl

theorem loop_backslash (q : Quote) (c : UInt8) (hc : c ≠ 0) (buf tail : Bytes) (pos : Nat) (last : Option UInt8) :
    loop q.st buf ⟨92 :: c :: tail, pos, last⟩ =
      match readEscape c ⟨tail, pos + 1 + 1, some c⟩ with
      | none => .panic convPanic
      | some (v, r') => loop q.st (buf ++ writeRune v) r' := by
  rw [loop_cons (by decide), step_string, if_pos rfl]
  simp only [Bool.false_eq_true, ↓reduceIte]
  rw [loop_cons hc, step_esc]
  rfl

/-- backslash + `c`, not a complete `\xHH`: the lexer writes `getEscapedRune c`, whether or not `c` names an escape -/
theorem loop_escape (q : Quote) (c : UInt8) (hc : c ≠ 0) (tail : Bytes) (hx : c = 120 → ¬ twoHex tail)
    (hv : (docEscape c).getD c < 128) (buf : Bytes) (pos : Nat) (last : Option UInt8) :
    ∃ last', loop q.st buf ⟨92 :: c :: tail, pos, last⟩ =
      loop q.st (buf ++ [(docEscape c).getD c]) ⟨tail, pos + 2, last'⟩ := by
  obtain ⟨l', hre⟩ := readEscape_plain c ⟨tail, pos + 1 + 1, some c⟩ hx
  refine ⟨l', ?_⟩
  rw [loop_backslash q c hc, hre]
  simp only
  rw [getEscapedRune_spec, writeRune_ascii _ hv]

/-- **one spelling item**: the string state reads it and appends the byte it denotes -/
theorem loop_sp (q : Quote) (x : Sp) (tail : Bytes) (hx : x.ok q tail) (buf : Bytes) (pos : Nat)
    (last : Option UInt8) :
    ∃ last', loop q.st buf ⟨x.render ++ tail, pos, last⟩ =
      loop q.st (buf ++ [x.denote]) ⟨tail, pos + x.render.length, last'⟩ := by
  cases x with
  | raw c =>
    obtain ⟨h0, _, h92, hq⟩ := hx
    exact ⟨some c, loop_next h0 (by rw [step_string, if_neg h92, if_neg hq])⟩
  | named l =>
    obtain ⟨hl0, hl120, hv⟩ := docEscape_facts hx
    exact loop_escape q l hl0 tail (fun h => absurd h hl120) hv buf pos last
  | hex d1 d2 =>
    obtain ⟨h1, h2, hv⟩ := hx
    refine ⟨some d2, ?_⟩
    show loop q.st buf ⟨92 :: 120 :: d1 :: d2 :: tail, pos, last⟩ = _
    rw [loop_backslash q 120 (by decide), readEscape_hexVal h1 h2]
    simp only
    rw [writeRune_ascii _ hv]
    rfl
  | esc c =>
    obtain ⟨h0, h128, hdoc, hx120⟩ := hx
    have := loop_escape q c h0 tail hx120 (by rw [hdoc]; exact h128) buf pos last
    rwa [hdoc] at this

/-- **the string states decode a spelling**: started inside a literal quoted with `q` (after the
opening quote), on a legal spelling followed by the closing quote and anything, the loop ends in
SSTRING_END just behind the closing quote, having appended exactly the denoted bytes. -/
theorem loop_string (q : Quote) (sps : List Sp) (rest buf : Bytes) (pos : Nat) (last : Option UInt8)
    (hok : okAll q (q.byte :: rest) sps) :
    loop q.st buf ⟨renderAll sps ++ q.byte :: rest, pos, last⟩ =
      .done .stringEnd (buf ++ denoteAll sps) ⟨rest, pos + (renderAll sps).length + 1, some q.byte⟩ := by
  induction sps generalizing buf pos last with
  | nil =>
    simp only [renderAll, List.flatMap_nil, List.nil_append, denoteAll, List.map_nil, List.append_nil, List.length_nil]
    rw [loop_cons q.byte_ne_zero, step_string, if_neg q.byte_ne_backslash, if_pos rfl]
    simp
  | cons x xs ih =>
    obtain ⟨l', h⟩ := loop_sp q x _ hok.1 buf pos last
    show loop q.st buf ⟨x.render ++ renderAll xs ++ _, pos, last⟩ = _
    rw [List.append_assoc, h, ih _ _ _ hok.2, List.append_assoc, Nat.add_assoc pos, ← List.length_append]
    rfl

theorem renderAll_append (xs ys : List Sp) : renderAll (xs ++ ys) = renderAll xs ++ renderAll ys := by
  simp [renderAll]

theorem okAll_append (q : Quote) (tail : Bytes) (xs ys : List Sp) :
    okAll q tail (xs ++ ys) ↔ okAll q (renderAll ys ++ tail) xs ∧ okAll q tail ys := by
  induction xs with
  | nil => simp [okAll]
  | cons x xs ih =>
    simp only [List.cons_append, okAll, ih, renderAll_append, List.append_assoc, and_assoc]

theorem hexVal_quote (q : Quote) : (hexVal q.byte).isSome = false := by cases q <;> decide

theorem twoHex_indep (q : Quote) (a n1 n2 : Bytes) :
    twoHex (a ++ q.byte :: n1) ↔ twoHex (a ++ q.byte :: n2) := by
  match a with
  | [] => cases n1 <;> cases n2 <;> simp [twoHex, hexVal_quote]
  | [x] => simp [twoHex, hexVal_quote]
  | x :: y :: _ => simp [twoHex]

/-- legality does not depend on what follows the closing quote -/
theorem okAll_tail_indep (q : Quote) (n1 n2 : Bytes) (sps : List Sp) (h : okAll q (q.byte :: n1) sps) :
    okAll q (q.byte :: n2) sps := by
  induction sps with
  | nil => trivial
  | cons x xs ih =>
    obtain ⟨hx, hxs⟩ := h
    refine ⟨?_, ih hxs⟩
    cases x with
    | esc c =>
      obtain ⟨h0, h1, h2, h3⟩ := hx
      exact ⟨h0, h1, h2, fun hc ht => h3 hc ((twoHex_indep q _ n2 n1).mp ht)⟩
    | _ => exact hx

end Vore.Lex

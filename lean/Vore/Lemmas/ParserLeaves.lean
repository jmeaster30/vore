import Vore.Lemmas.ParserBasics
/-!
# Vore.Lemmas.ParserLeaves — simulation lemmas for the non-recursive parser functions
(amounts, character classes, strings, `in` lists, `with` atoms, loop suffix, regex literal)
-/
namespace Vore.Parser
open Vore Vore.Grammar

/-- case split on a token-kind test that occurs (syntactically equal) on both sides: for a test inside an argument of a
call, out of reach of `sim_ite` (an outermost `if`), that is not an optional token (`At.opt`).  The proofs below have
no such test, so nothing calls it. -/
macro "kcase " h:ident " : " c:term : tactic =>
  `(tactic| (by_cases $h : $c <;> simp only [$h:ident, ↓reduceIte, reduceCtorEq, sig_kind]))

variable {ts : List Token}

theorem parseAmount_sim (h : EndsEof ts) {lo i : Nat} (hb : lo ≤ i ∧ i < ts.length) :
    Sim ts lo (parseAmount ts i) (pAmount (strip (ts.drop i))) := by
  unfold parseAmount pAmount
  apply sim_skipTok h hb; intro n t p _
  refine sim_ite (c := t.kind = .all) (fun hk => ?_) fun _ => ?_
  · exact sim_ok rfl (p.succ h (by simp [hk]))
  refine sim_ite (c := t.kind = .skip) (fun hk => ?_) fun _ => ?_
  · apply sim_number h (p.succ h (by simp [hk])); intro n1 _ hb1 sv
    apply sim_skipTok h hb1; intro n2 t2 p2 hst2
    refine sim_ite (c := t2.kind = .take) (fun hk2 => ?_) fun _ => sim_ok hst2 p2.bnd
    apply sim_number h (p2.succ h (by simp [hk2])); intro n3 _ hb3 tv
    exact sim_ok rfl hb3
  refine sim_ite (c := t.kind = .take ∨ t.kind = .top) (fun hk => ?_) fun _ => ?_
  · apply sim_number h (p.succ h fun he => by simp [he] at hk); intro n1 _ hb1 tv
    exact sim_ok rfl hb1
  refine sim_ite (c := t.kind = .last) (fun hk => ?_) fun _ => sim_err
  apply sim_number h (p.succ h (by simp [hk])); intro n1 _ hb1 lv
  exact sim_ok rfl hb1

theorem simpleClass_ne_eof {k : Tok} {c : Class} (h : simpleClass k = some c) : k ≠ .eof := by
  rintro rfl; simp [simpleClass] at h

theorem compoundClass_ne_eof {k k2 : Tok} {c : Class} (h : compoundClass k k2 = some c) : k2 ≠ .eof := by
  rintro rfl; simp [compoundClass] at h

theorem parseCharacterClass_sim (h : EndsEof ts) {i : Nat} {t : Token} {neg : Bool}
    (htk : tk ts i = some t) (hs : ignorable t.kind = false) :
    Sim ts (i + 1) (parseCharacterClass ts i neg) (pCharacterClass neg (strip (ts.drop i))) := by
  unfold parseCharacterClass pCharacterClass
  apply sim_tok htk hs
  simp only [sig_kind]
  cases hc : simpleClass t.kind with
  | some c => exact sim_ok rfl (h.after htk (simpleClass_ne_eof hc))
  | none =>
    refine sim_ite (fun hk => ?_) fun _ => sim_err
    apply sim_skipTok h (h.after htk fun he => by simp [he] at hk); intro n t2 p2 _
    simp only [sig_kind]
    cases hcc : compoundClass t.kind t2.kind with
    | some c => exact sim_ok rfl (p2.succ h (compoundClass_ne_eof hcc))
    | none => exact sim_err

theorem parseCaseless_sim (h : EndsEof ts) {i : Nat} {t : Token}
    (htk : tk ts i = some t) (hs : ignorable t.kind = false) (hk : t.kind ≠ .eof) :
    Sim ts (i + 1) (parseCaseless ts i) (pCaseless (strip (ts.drop i))) := by
  rw [parseCaseless, pCaseless, next_head htk hs]
  apply sim_expect (· = .string) (by decide) h (h.after htk hk); intro n t2 hk2 hb2
  rw [sig_lex hk2 rfl]
  exact sim_ok rfl hb2

theorem parseListable_sim (h : EndsEof ts) {i : Nat} {t : Token}
    (htk : tk ts i = some t) (hs : ignorable t.kind = false) :
    Sim ts (i + 1) (parseListable ts i) (pListable (strip (ts.drop i))) := by
  unfold parseListable pListable
  apply sim_tok htk hs
  refine sim_ite (c := t.kind = .string) (fun hk => ?_) fun _ => ?_
  · rw [sig_lex hk rfl]
    apply sim_skipTok h (h.after htk (by simp [hk])); intro c t2 p2 hst
    refine sim_ite (c := t2.kind = .to) (fun hk2 => ?_) fun _ => sim_ok hst p2.bnd
    apply sim_expect (· = .string) (by decide) h (p2.succ h (by simp [hk2])); intro c2 t3 hk3 hb3
    rw [sig_lex hk3 rfl]
    exact sim_ok rfl hb3
  refine sim_ite (c := t.kind = .caseless) (fun hk => ?_) fun _ => ?_
  · exact sim_map (parseCaseless_sim h htk hs (by simp [hk]))
  exact sim_ite (c := isListableClass t.kind = true) (fun _ => parseCharacterClass_sim h htk hs) fun _ => sim_err

theorem inRest_sim (h : EndsEof ts) {lo : Nat} : ∀ (n nx : Nat), lo ≤ nx ∧ nx < ts.length →
    ts.length - nx ≤ n → Sim ts lo (inRest ts n nx) (pInRest n (strip (ts.drop nx)))
  | 0, _, hb, hn => absurd (Nat.sub_pos_of_lt hb.2) (Nat.not_lt.mpr hn)
  | n + 1, nx, hb, hn => by
    -- anchored at `nx` from here on: the loop's measure needs the progress made since `nx`
    refine sim_mono ?_ hb.1
    rw [inRest, pInRest]
    apply sim_skipTok h ⟨Nat.le_refl _, hb.2⟩; intro c t p hst
    refine sim_ite (fun hk => ?_) fun _ => sim_ok hst p.bnd
    apply sim_skip h (p.succ h (by simp [hk])); intro c1 t1 p1
    apply sim_bind (parseListable_sim h p1.tk p1.sig); intro a nx' _ hb'
    have hlt : nx < nx' := Nat.lt_of_le_of_lt p1.le hb'.1
    exact sim_map (inRest_sim h (lo := nx) n nx' ⟨Nat.le_of_lt hlt, hb'.2⟩ (fuel_loop (a := 0) hn hb.2 hlt))

theorem parseIn_sim (h : EndsEof ts) {i F : Nat} {t : Token} {neg : Bool}
    (htk : tk ts i = some t) (hs : ignorable t.kind = false) (hk : t.kind ≠ .eof)
    (hF : ts.length - i ≤ F) :
    Sim ts (i + 1) (parseIn ts F i neg) (pIn F neg (strip (ts.drop i))) := by
  rw [parseIn, pIn, next_head htk hs]
  apply sim_skip h (h.after htk hk); intro n t1 p1
  apply sim_bind (p1.sim (parseListable_sim h p1.tk p1.sig)); intro a nx _ hb
  exact sim_map (inRest_sim h F nx hb (Nat.le_trans (Nat.sub_le_sub_left (Nat.le_of_succ_le hb.1) _) hF))

theorem parseNotLiteral_sim (h : EndsEof ts) {i : Nat} {t : Token}
    (htk : tk ts i = some t) (hs : ignorable t.kind = false) (hk : t.kind ≠ .eof) :
    Sim ts (i + 1) (parseNotLiteral ts i) (pNotLiteral (strip (ts.drop i))) := by
  rw [parseNotLiteral, pNotLiteral, next_head htk hs]
  apply sim_skipTok h (h.after htk hk); intro n t2 p2 hst
  refine sim_ite (c := t2.kind = .string) (fun hk2 => ?_) fun _ => ?_
  · rw [sig_lex hk2 rfl]
    exact sim_ok rfl (p2.succ h (by simp [hk2]))
  refine sim_ite (c := isClassStart t2.kind = true) (fun _ => ?_) fun _ => sim_err
  rw [hst]
  exact sim_map (p2.sim (parseCharacterClass_sim h p2.tk p2.sig))

theorem parseAtom_sim (h : EndsEof ts) {i : Nat} {t : Token}
    (htk : tk ts i = some t) (hs : ignorable t.kind = false) :
    Sim ts (i + 1) (parseAtom ts i) (pAtom (strip (ts.drop i))) := by
  unfold parseAtom pAtom
  apply sim_tok htk hs
  refine sim_ite (c := t.kind = .string) (fun hk => ?_) fun _ => ?_
  · rw [sig_lex hk rfl]
    exact sim_ok rfl (h.after htk (by simp [hk]))
  refine sim_ite (c := t.kind = .caseless) (fun hk => ?_) fun _ => ?_
  · exact sim_map (parseCaseless_sim h htk hs (by simp [hk]))
  refine sim_ite (c := t.kind = .identifier) (fun hk => ?_) fun _ => sim_err
  rw [sig_lex hk rfl]
  exact sim_ok rfl (h.after htk (by simp [hk]))

theorem parseRegexp_sim {rx : Bytes → RegexOutcome} (hrx : ∀ b, rx b ≠ .panic)
    (h : EndsEof ts) {i : Nat} {t : Token}
    (htk : tk ts i = some t) (hs : ignorable t.kind = false) (hk : t.kind = .regexp) :
    Sim ts (i + 1) (parseRegexp rx ts i) (pRegexp rx (strip (ts.drop i))) := by
  unfold parseRegexp pRegexp
  apply sim_tok htk hs
  rw [sig_lex hk rfl]
  cases hr : rx t.lexeme with
  | ok e => exact sim_ok rfl (h.after htk (by simp [hk]))
  | error => exact sim_err
  | panic => exact absurd hr (hrx _)

theorem parseLoopSuffix_sim (h : EndsEof ts) {lo nx : Nat} (hb : lo ≤ nx ∧ nx < ts.length) :
    Sim ts lo (parseLoopSuffix ts nx) (pLoopSuffix (strip (ts.drop nx))) := by
  unfold parseLoopSuffix pLoopSuffix
  apply sim_skipTok h hb; intro c t p hst
  obtain ⟨hr, hb'⟩ := p.opt h hst .fewest (by decide)
  rw [hr]
  apply sim_skipTok h hb'; intro c2 t2 p2 hst2
  refine sim_ite (fun hk2 => ?_) fun _ => sim_ok hst2 p2.bnd
  apply sim_expect (fun k => k = .identifier ∨ k = .string) (by decide) h (p2.succ h (by simp [hk2])); intro c3 t3 hk3 hb3
  have hl : (Token.sig t3).lex = t3.lexeme := hk3.elim (sig_lex · rfl) (sig_lex · rfl)
  rw [hl]
  exact sim_ok rfl hb3

end Vore.Parser

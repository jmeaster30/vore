import Vore.Lemmas.ParserCmd
import Vore.Lemmas.GrammarMono
/-!
# Vore.Lemmas.ParserFinal — from the simulation to the statements of C08 / C15
-/
namespace Vore.Parser
open Vore Vore.Grammar

variable {rx : Bytes → RegexOutcome} {ts : List Token}

/-- a result that is neither a panic nor out of fuel, advances to at least `lo`, stays before the end -/
def Good {α : Type} (ts : List Token) (lo : Nat) : Res α → Prop
  | .ok _ k => lo ≤ k ∧ k < ts.length
  | .error _ _ => True
  | .panic => False
  | .fuel => False

theorem sim_good {α : Type} {lo : Nat} {r : Res α} {g : GR α} (h : Sim ts lo r g) : Good ts lo r := by
  rcases h.inv with ⟨v, k, rfl, rfl, h1, h2⟩ | ⟨m, a, rfl, rfl⟩
  · exact ⟨h1, h2⟩
  · trivial

theorem Sim.ne_fuel {α : Type} {lo : Nat} {r : Res α} {g : GR α} (h : Sim ts lo r g) : g ≠ .fuel := by
  rcases h.inv with ⟨_, _, _, rfl, _⟩ | ⟨_, _, _, rfl⟩ <;> nofun

theorem simSt_good {lo : Nat} {r : Res Stmt} {g : GR Stmt} (h : SimSt ts lo r g)
    (hmono : ∀ v k, r = .ok v k → lo ≤ k) : Good ts lo r := by
  rcases h.inv with ⟨v, k, rfl, rfl, h1, h2, _⟩ | ⟨v, k, t, rfl, rfl, h1, _⟩ | ⟨m, a, rfl, rfl⟩
  · exact ⟨h1, h2⟩
  · exact ⟨hmono v k rfl, lt_of_tk h1⟩
  · trivial

/-- results agree up to positions: same tree, or both a syntax error -/
def Agree {α : Type} : Res α → GR α → Prop
  | .ok v _, .ok v' _ => v = v'
  | .error _ _, .err => True
  | _, _ => False

theorem sim_agree {α : Type} {lo : Nat} {r : Res α} {g : GR α} (h : Sim ts lo r g) : Agree r g := by
  rcases h.inv with ⟨v, k, rfl, rfl, _, _⟩ | ⟨m, a, rfl, rfl⟩
  · exact rfl
  · trivial

/-- two model results agree: same tree, or both a syntax error (messages and positions may differ) -/
def Same {α : Type} : Res α → Res α → Prop
  | .ok v _, .ok v' _ => v = v'
  | .error _ _, .error _ _ => True
  | _, _ => False

theorem same_of_agree {α : Type} {r r' : Res α} {g : GR α} (h : Agree r g) (h' : Agree r' g) : Same r r' :=
  match r, r', g, h, h' with
  | .ok _ _, .ok _ _, .ok _ _, h, h' => h.trans h'.symm
  | .error _ _, .error _ _, .err, _, _ => trivial

/-! ## a token list whose stripped form is a given stripped list -/

def embed (s : STok) : Token := { kind := s.kind, lexeme := s.lex }

theorem sig_embed_sig (t : Token) : Token.sig (embed (Token.sig t)) = Token.sig t := by
  unfold embed Token.sig
  cases hc : carriesLexeme t.kind <;> simp

theorem strip_embed_strip (ts : List Token) : strip ((strip ts).map embed) = strip ts := by
  have hk : ∀ s, (embed s).kind = s.kind := fun _ => rfl
  simp [strip, List.filter_map, Function.comp_def, sig_embed_sig, hk, List.filter_filter]

theorem strip_append (a b : List Token) : strip (a ++ b) = strip a ++ strip b := by
  simp [strip, List.filter_append]

theorem strip_kind_mem {ts : List Token} {s : STok} (h : s ∈ strip ts) : ∃ t ∈ ts, t.kind = s.kind := by
  unfold strip at h
  obtain ⟨t, ht, rfl⟩ := List.mem_map.mp h
  exact ⟨t, (List.mem_filter.mp ht).1, rfl⟩

theorem endsEof_embed (h : EndsEof ts) : EndsEof ((strip ts).map embed) := by
  obtain ⟨pre, e, rfl, he, hpre⟩ := h
  refine ⟨(strip pre).map embed, embed (Token.sig e), ?_, he, ?_⟩
  · have : strip [e] = [Token.sig e] := by simp [strip, List.filter, eof_sig he]
    rw [strip_append, this]; simp
  · intro t ht
    obtain ⟨s, hs, rfl⟩ := List.mem_map.mp ht
    obtain ⟨t', ht', hk⟩ := strip_kind_mem hs
    exact fun he' => hpre t' ht' (hk.trans he')

theorem strip_length_le (ts : List Token) : (strip ts).length ≤ ts.length := by
  simp [strip]; exact List.length_filter_le _ _

/-- `parse_sim` runs the grammar with the model's fuel, `Grammar.parse` with the smaller fuel of the stripped list.
The model is run a second time, on `(strip ts).map embed` (same stripped list, model fuel = that smaller fuel), only
to learn that the grammar does not run out of fuel there; `pCmds_det` then carries the result over. -/
theorem parse_agree (hrx : ∀ b, rx b ≠ .panic) (h : EndsEof ts) :
    Sim ts 0 (parse rx ts) (Grammar.parse rx (strip ts)) := by
  have h2 := parse_sim hrx (endsEof_embed h)
  rw [strip_embed_strip] at h2
  have hfuel : Parser.fuelOf ((strip ts).map embed) = Grammar.fuelOf (strip ts) := by
    simp [Parser.fuelOf, Grammar.fuelOf]
  rw [hfuel] at h2
  have hle : Grammar.fuelOf (strip ts) ≤ Parser.fuelOf ts :=
    Nat.add_le_add_right (Nat.mul_le_mul_left 8 (strip_length_le ts)) 16
  rw [Grammar.parse, ← pCmds_det hle hle h2.ne_fuel]
  exact parse_sim hrx h

/-- the fuel `parse` hands out covers every rank at every index -/
theorem fuelOf_top {m a c : Nat} (hm : m ≤ 8) (ha : a ≤ 16) :
    m * (ts.length - c) + a ≤ fuelOf ts :=
  Nat.add_le_add (Nat.le_trans (Nat.mul_le_mul_right _ hm) (Nat.mul_le_mul_left 8 (Nat.sub_le _ _))) ha

theorem expression_top (hrx : ∀ b, rx b ≠ .panic) (h : EndsEof ts) {i : Nat} {t : Token}
    (htk : tk ts i = some t) (hs : ignorable t.kind = false) :
    Sim ts (i + 1) (parseExpression rx ts (fuelOf ts) i) (pExpression rx (fuelOf ts) (strip (ts.drop i))) :=
  (expr_sim hrx h (fuelOf ts)).expr i t htk hs (fuelOf_top (by decide) (by decide))

theorem command_top (hrx : ∀ b, rx b ≠ .panic) (h : EndsEof ts) {i : Nat} {t : Token}
    (htk : tk ts i = some t) (hs : ignorable t.kind = false) :
    SimC ts i (parseCommand rx ts (fuelOf ts) (fuelOf ts) i)
      (pCommand rx (fuelOf ts) (fuelOf ts) (strip (ts.drop i))) :=
  (cmd_sim hrx h fuelOf_cmd (fuelOf ts)).cmd i t htk hs (fuelOf_top (by decide) (by decide))

theorem statements_top (h : EndsEof ts) {i : Nat} (hi : i < ts.length) :
    SimSt ts i (parseStatements ts (fuelOf ts) i) (pStatements (fuelOf ts) (strip (ts.drop i))) :=
  (stmt_sim h (fuelOf ts)).stmts i hi (fuelOf_top (by decide) (by decide))

end Vore.Parser

import Vore.Spec.Core
import Vore.Lemmas.SimBase
/-!
# Vore.Lemmas.Sim — the simulation, instruction by instruction: jumps, returns, bindings, leaves, `in` and `not in` lists, the loop head

Each lemma says that the VM, placed on a piece of generated code that contains no nested expression, realises the
specification's clause for it (in the vocabulary of `SimBase`).  `Lemmas/SimR.lean` is the induction on the syntax
tree that puts them together.
-/
namespace Vore
open Vore.Spec

section
variable {pf : Nat} {prog : List Instr} {text : Bytes}

theorem kjump {pcj t : Nat} {L V C ks} (hj : prog[pcj]? = some (.jump t))
    (hks : KOk pf prog text t L V C ks) : KOk pf prog text pcj L V C ks := by
  intro d fk' bt' r hrep hk
  refine ev_step (s' := ⟨mkCore t d L V C, bt'⟩) hj ?_ (hks hrep hk)
  simp [step, hj, mkCore]

/-- returning from a subroutine: pop the frame, apply the predicate -/
theorem kreturn {pcE ret id : Nat} {x : String} {pred : Stmt} {L V C ks}
    (hend : prog[pcE]? = some (.endSub x pred)) (hks : KOk pf prog text ret L V C ks) :
    KOk pf prog text pcE L V (⟨id, ret⟩ :: C) (withPred pf pred ks) := by
  intro d fk' bt' r hrep hk
  refine ev_of_step hend ?_
  simp only [withPred, predHolds] at hk
  simp only [step, mkCore, hend]
  by_cases hskip : (pred == .skip) = true
  · simp only [hskip, if_true] at hk ⊢
    exact hks hrep hk
  · simp only [hskip, Bool.false_eq_true, if_false] at hk ⊢
    cases hrun : runProcess pf pred [("match", .str d.cur), ("matchLength", .num d.cur.length)] with
    | error t => simp [hrun] at hk
    | ok ov =>
      cases ov with
      | none => simp [hrun] at hk
      | some v =>
        simp only [hrun] at hk ⊢
        cases hv : v.getBoolean with
        | true =>
          simp only [hv, if_true] at hk ⊢
          exact hks hrep hk
        | false =>
          simp only [hv, Bool.false_eq_true, if_false] at hk ⊢
          exact evStep_backtrack (hrep r hk)

theorem insertInLoops_unnamed (x : String) (v : Val) : ∀ L : List LoopSt, (∀ l ∈ L, l.name = "") →
    insertInLoops L x v = none
  | [], _ => rfl
  | l :: rest, h => by
    have hl : l.name = "" := h l (by simp)
    have ih := insertInLoops_unnamed x v rest (fun l' hl' => h l' (by simp [hl']))
    simp [insertInLoops, hl, ih]

/-- `EndVar` binds what was consumed since the matching `StartVar`: in the environment, as no loop on the stack is named -/
theorem kendVar {pc n : Nat} {x : String} {L V C ks} (h : prog[pc]? = some (.endVar x)) (hL : ∀ l ∈ L, l.name = "")
    (hks : KOk pf prog text (pc + 1) L V C ks) :
    KOk pf prog text pc L ((x, n) :: V) C (fun d fk => ks (bindD d x (d.cur.drop n)) fk) := by
  intro d fk' bt' r hrep hk
  refine ev_step (s' := ⟨mkCore (pc + 1) (bindD d x (d.cur.drop n)) L V C, bt'⟩) h ?_ (hks hrep hk)
  simp [step, h, mkCore, Core.insertVar, insertInLoops_unnamed x _ L hL, bindD]

/-- a leaf: an instruction whose step is `lift … (f d)` turns a continuation realised behind it into the leaf's clause -/
theorem sim_leaf {pc : Nat} {L V C} {ks : SK} (f : Data → Option Data) {i : Instr} (hi : prog[pc]? = some i)
    (hstep : ∀ d bt, step pf prog text ⟨mkCore pc d L V C, bt⟩ = lift ⟨mkCore pc d L V C, bt⟩ (f d))
    (hks : KOk pf prog text (pc + 1) L V C ks) :
    KOk pf prog text pc L V C (fun d fk => match f d with | some d' => ks d' fk | none => fk ()) := by
  intro d fk bt r hfk hm
  refine ev_lift (o := f d) hi (hstep d bt) ?_ ?_
  · intro d' ho; simp only [ho] at hm; exact hks hfk hm
  · intro ho; simp only [ho] at hm; exact hfk r hm

/-- `Branch` enters its first target with checkpoints for the others: the same as backtracking into all of them -/
theorem ev_branch {pc : Nat} {d : Data} {L V C bt} {ts : List Nat} {r : SRes} (h : prog[pc]? = some (.branch ts))
    (hne : ts ≠ []) (hbt : EvBt pf prog text (ts.map (fun t => mkCore t d L V C) ++ bt) r) :
    Ev pf prog text ⟨mkCore pc d L V C, bt⟩ r := by
  cases ts with
  | nil => exact absurd rfl hne
  | cons t ts => exact ev_step h (by simp [step, h, VMState.branch, mkCore]) hbt

/-- backtracking into the checkpoints of the items (each two instructions long) realises "try the items in order" -/
theorem sim_inAlts {endPc : Nat} {L V C} {ks : SK} (hks : KOk pf prog text endPc L V C ks) (d : Data) :
    ∀ (items : List Atom) (pc : Nat) {bt : List Core} {fk : FK},
      At prog pc (genInItems items endPc) → Rep pf prog text bt fk →
      Rep pf prog text ((List.range items.length).map (fun i => mkCore (pc + 2 * i) d L V C) ++ bt)
        (fun _ => inAlts text items d ks fk) := by
  intro items
  induction items with
  | nil => intro pc bt fk _ hfk; exact hfk
  | cons a rest ih =>
    intro pc bt fk hat hfk r hm
    have h0 : prog[pc]? = some (genAtom a) := hat.head
    have hrest : Rep pf prog text ((List.range rest.length).map (fun i => mkCore (pc + 2 * (i + 1)) d L V C) ++ bt)
        (fun _ => inAlts text rest d ks fk) := by
      have e : (fun i => mkCore (pc + 2 * (i + 1)) d L V C) = fun i => mkCore (pc + 2 + 2 * i) d L V C := by
        funext i; congr 1; omega
      rw [e]
      exact ih (pc + 2) hat.tail.tail hfk
    rw [List.length_cons, List.range_succ_eq_map, List.map_cons, List.map_map]
    -- the item is a leaf that continues at its jump to `endPc`, and on failure with the remaining items
    exact sim_leaf (atomD text a) h0 (fun _ _ => step_atom pf prog text _ a h0) (kjump hat.tail.head hks) hrest hm

theorem consume_mkCore (pc : Nat) (d : Data) (L V C) (n : Nat) :
    (mkCore pc d L V C).consume text n = mkCore pc (consumeD text d n) L V C := by
  simp only [Core.consume, mkCore, consumeD]

/-- `FailNotIn` is `BACKTRACK` twice: past the checkpoint that `StartNotIn` left for the next item, into what was below it -/
theorem ev_failNotIn {pc : Nat} {d : Data} {L V C} {c1 : Core} {bt0 : List Core} {r : SRes}
    (h : prog[pc]? = some .failNotIn) (hbt : EvBt pf prog text bt0 r) :
    Ev pf prog text ⟨mkCore pc d L V C, c1 :: bt0⟩ r := by
  refine ev_of_step h ?_
  simp only [step, mkCore_pc, h]
  cases bt0 with
  | nil => simp only [EvBt] at hbt; subst hbt; rfl
  | cons c2 rest => exact hbt

theorem sim_notIn (mxs : Int) {L V C} {ks : SK} :
    ∀ (items : List Atom) (pc : Nat), At prog pc (genNotInItems items pc ++ [.endNotIn mxs]) →
      KOk pf prog text (pc + 3 * items.length + 1) L V C ks →
      KOk pf prog text pc L V C (fun d fk =>
        if items.any (fun a => (atomD text a d).isSome) then fk ()
        else if (consumeD text d mxs.toNat).pos == d.pos then fk ()
        else ks (consumeD text d mxs.toNat) fk) := by
  intro items
  induction items with
  | nil =>
    intro pc hat hks d fk bt r hfk hm
    have h0 : prog[pc]? = some (.endNotIn mxs) := hat.head
    refine ev_of_step h0 ?_
    simp only [step, mkCore_pc, h0, consume_mkCore, mkCore_pos]
    simp only [List.any_nil, Bool.false_eq_true, if_false] at hm
    by_cases hz : ((consumeD text d mxs.toNat).pos == d.pos) = true
    · simp only [hz, if_true] at hm ⊢
      exact evStep_backtrack (hfk r hm)
    · simp only [hz, Bool.false_eq_true, if_false] at hm ⊢
      exact hks hfk hm
  | cons a rest ih =>
    intro pc hat hks d fk bt r hfk hm
    have h0 : prog[pc]? = some (.startNotIn (pc + 3)) := hat.head
    have h1 : prog[pc + 1]? = some (genAtom a) := hat.tail.head
    refine ev_step (s' := ⟨mkCore (pc + 1) d L V C, mkCore (pc + 3) d L V C :: bt⟩) h0
      (by simp [step, h0, mkCore]) ?_
    refine ev_lift (o := atomD text a d) h1 (step_atom pf prog text _ a h1) ?_ ?_
    · intro d' ho
      simp only [List.any_cons, ho, Option.isSome_some, Bool.true_or, if_true] at hm
      exact ev_failNotIn hat.tail.tail.head (hfk r hm)
    · intro ho
      simp only [List.any_cons, ho, Option.isSome_none, Bool.false_or] at hm
      exact evBt_cons (ih (pc + 3) hat.tail.tail.tail (hks.cast (by simp only [List.length_cons]; omega)) hfk hm)

end

/-! the loop head (`matchStartLoop`) on unnamed loops, characterised on `mkCore` states -/

/-- the state of the unnamed loop `id` at call level `|C|` whose iteration `k` started from data `d` -/
def loopAt (id : Nat) (C : List CallSt) (k : Nat) (d : Data) (vars : VMap) : LoopSt :=
  { id := id, callLevel := C.length, iter := k, name := "", startLen := d.cur.length, vars := vars }

@[simp] theorem loopAt_iter (id C k d vars) : (loopAt id C k d vars).iter = k := rfl

/-- what the head does once the loop state `top` is on the stack.  The equations below hold for unnamed loops with
`mn = 0` only: what `genR` emits (the mandatory copies are unrolled). -/
def loopDecide (pc ex : Nat) (mx : Int) (fewest : Bool) (d : Data) (top : LoopSt) (rest : List LoopSt)
    (V : List (String × Nat)) (C : List CallSt) (bt : List Core) : Step :=
  if mx == -1 || (top.iter : Int) ≤ mx then
    if fewest then .cont ⟨mkCore (ex + 1) d rest V C, mkCore (pc + 1) d (top :: rest) V C :: bt⟩
    else .cont ⟨mkCore (pc + 1) d (top :: rest) V C, mkCore (ex + 1) d rest V C :: bt⟩
  else VMState.backtrack ⟨mkCore pc d (top :: rest) V C, bt⟩

section
variable {pc ex id : Nat} {mx : Int} {fewest : Bool} {d : Data} {L : List LoopSt} {V : List (String × Nat)}
  {C : List CallSt} {bt : List Core}

/-- first entry: no loop on the stack at this call level has this id -/
theorem startLoop_fresh (hL : ∀ l ∈ L, l.callLevel = C.length → l.id ≠ id) :
    VMState.startLoop ⟨mkCore pc d L V C, bt⟩ id 0 mx fewest ex "" =
      loopDecide pc ex mx fewest d (loopAt id C 0 d (.cons "0" (.map .nil) .nil)) L V C bt := by
  unfold VMState.startLoop loopDecide
  cases L with
  | nil =>
    simp only [mkCore, loopAt, Core.popLoop, Nat.not_lt_zero, if_false, bne_self_eq_false, Bool.false_eq_true]
    rfl
  | cons top rest =>
    have hb : (top.id != id || top.callLevel != C.length) = true := by
      by_cases hc : top.callLevel = C.length
      · simp [hL top (List.mem_cons_self ..) hc]
      · simp [hc]
    simp only [mkCore, loopAt, Core.popLoop, hb, Nat.not_lt_zero, if_false, if_true, bne_self_eq_false,
      Bool.false_eq_true]
    rfl

/-- re-entry after iteration `k`, which started from `d0`: the zero-width guard, then the decision -/
theorem startLoop_reenter {k : Nat} {d0 : Data} {vars : VMap} :
    VMState.startLoop ⟨mkCore pc d (loopAt id C k d0 vars :: L) V C, bt⟩ id 0 mx fewest ex "" =
      if d.cur.length == d0.cur.length then VMState.backtrack ⟨mkCore pc d (loopAt id C k d0 vars :: L) V C, bt⟩
      else loopDecide pc ex mx fewest d (loopAt id C (k + 1) d (vars.put (toString (k + 1)) (.map .nil))) L V C bt := by
  unfold VMState.startLoop loopDecide
  have hc : (d0.cur.length == d.cur.length) = (d.cur.length == d0.cur.length) := Bool.beq_comm
  by_cases hz : (d.cur.length == d0.cur.length) = true
  · simp only [mkCore, loopAt, bne_self_eq_false, Bool.or_self, Bool.false_eq_true, if_false, hc, hz, if_true]
  · simp only [mkCore, loopAt, Core.popLoop, bne_self_eq_false, Bool.or_self, Bool.false_eq_true, if_false, hc, hz,
      Nat.not_lt_zero]
    rfl

end

end Vore

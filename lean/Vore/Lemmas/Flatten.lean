import Vore.Spec.Core
/-!
# Vore.Lemmas.Flatten — definitions are transparent in every context (C13)

`flattenN ρ n e` replaces, `n` levels deep, every call by the body of its target (followed by the
target's predicate, if it has one) and every subroutine node without predicate by its body.  The
semantics with calls nested at most `n` deep is *equal* — as a function of the data and both
continuations, hence in every context — to the call-free semantics of the flattened expression.  So two
spellings with the same flattening (a body written in place, `{B} = s … s`, `set s to pattern B … s`) match
the same things wherever they stand.
-/
namespace Vore
open Vore.Spec

/-- no subroutine can be entered -/
def noCall : RExpr → Data → SK → FK → Option SRes := fun _ _ _ _ => none

def wrapPred (id : Nat) (x : String) (pred : Stmt) (e : RExpr) : RExpr :=
  if pred == .skip then e else .sub id x e pred

def flattenWith (ρ : Procs) (R : Option (RExpr → RExpr)) : RExpr → RExpr
  | .empty => .empty
  | .seq a b => .seq (flattenWith ρ R a) (flattenWith ρ R b)
  | .atom a => .atom a
  | .backref x => .backref x
  | .call x id =>
    match R, ρ.find id with
    | some r, some (y, body, pred) => wrapPred id y pred (r body)
    | _, _ => .call x id
  | .star mx fewest body => .star mx fewest (flattenWith ρ R body)
  | .branch l r => .branch (flattenWith ρ R l) (flattenWith ρ R r)
  | .dec x body => .dec x (flattenWith ρ R body)
  | .sub id x body pred => wrapPred id x pred (flattenWith ρ R body)
  | .inl neg items => .inl neg items

/-- calls expanded `n` levels deep -/
def flattenN (ρ : Procs) : Nat → RExpr → RExpr
  | 0 => flattenWith ρ none
  | n + 1 => flattenWith ρ (some (flattenN ρ n))

section
variable {text : Bytes} {lf pf : Nat}

theorem withPred_skip {pred : Stmt} (h : (pred == .skip) = true) (ks : SK) : withPred pf pred ks = ks := by
  funext d fk
  simp [withPred, predHolds, h]

theorem mr_wrapPred (ρ : Procs) (K : RExpr → Data → SK → FK → Option SRes) (id : Nat) (x : String) (pred : Stmt)
    (e : RExpr) (d : Data) (ks : SK) (fk : FK) :
    mrWith text lf pf ρ K (wrapPred id x pred e) d ks fk = mrWith text lf pf ρ K e d (withPred pf pred ks) fk := by
  unfold wrapPred
  split
  · next h => rw [withPred_skip h]
  · rfl

theorem mrWith_noCall_call (ρ : Procs) (x : String) (id : Nat) (d : Data) (ks : SK) (fk : FK) :
    mrWith text lf pf ρ noCall (.call x id) d ks fk = none := by
  unfold mrWith
  cases ρ.find id <;> rfl

/-- one level: if `K` runs a called body like the call-free semantics of its `R`-image, then the
semantics with `K` is the call-free semantics of the flattened expression (under `noCall` the table does not
matter: `ρ'` is arbitrary) -/
theorem flattenWith_sem (ρ ρ' : Procs) (K : RExpr → Data → SK → FK → Option SRes) (R : Option (RExpr → RExpr))
    (hK : match R with
      | none => K = noCall
      | some r => ∀ body, K body = mrWith text lf pf ρ' noCall (r body)) :
    ∀ e, mrWith text lf pf ρ K e = mrWith text lf pf ρ' noCall (flattenWith ρ R e) := by
  intro e
  induction e with
  | call x id =>
    funext d ks fk
    cases R with
    | none =>
      subst hK
      simp only [flattenWith, mrWith_noCall_call]
    | some r =>
      cases hf : ρ.find id with
      | none =>
        simp only [flattenWith, hf, mrWith_noCall_call]
        simp only [mrWith, hf]
      | some ent =>
        obtain ⟨y, body, pred⟩ := ent
        simp only [flattenWith, hf, mr_wrapPred]
        simp only [mrWith, hf, hK body]
  | sub id x body pred ih =>
    funext d ks fk
    simp only [flattenWith, mr_wrapPred]
    simp only [mrWith, ih]
  | inl neg items => cases neg <;> rfl
  | _ => funext d ks fk; simp only [flattenWith, mrWith, *]

/-- the semantics with calls nested at most `cf` deep is the call-free semantics of the expression
flattened `cf` levels deep — equal as functions, hence in every context -/
theorem mrN_flatten {ρ : Procs} (ρ' : Procs) : ∀ cf e, mrN text lf pf ρ cf e = mrWith text lf pf ρ' noCall (flattenN ρ cf e)
  | 0, e => flattenWith_sem ρ ρ' _ none rfl e
  | cf + 1, e => flattenWith_sem ρ ρ' _ (some (flattenN ρ cf)) (mrN_flatten ρ' cf) e

end

theorem findAllR_of_flatten_eq (text : Bytes) (pf cf : Nat) (e1 e2 : RExpr)
    (h : flattenN (procsOf e1) cf e1 = flattenN (procsOf e2) cf e2) :
    findAllR text pf cf e1 = findAllR text pf cf e2 := by
  unfold findAllR
  have hatt : attemptR text (text.length + 2) pf cf e1 = attemptR text (text.length + 2) pf cf e2 := by
    funext pos line col
    unfold attemptR
    rw [mrN_flatten [], mrN_flatten [], h]
  rw [hatt]

end Vore

import Vore.Spec.Atoms
/-!
# Vore.Lemmas.AtomsFrame — the VM's leaf primitives are the data-level leaves of Spec.Atoms,
lifted to "advance the pc keeping every stack, or backtrack"
-/
namespace Vore
open Vore.Spec

def lift (s : VMState) : Option Data → Step
  | some d => .cont ⟨mkCore (s.core.pc + 1) d s.core.loops s.core.vars s.core.calls, s.bt⟩
  | none => s.backtrack

theorem lift_next (s : VMState) : s.next = lift s (some s.core.data) := by rfl

theorem lift_consumeNext (text : Bytes) (s : VMState) (n : Nat) :
    s.consumeNext text n = lift s (some (consumeD text s.core.data n)) := by rfl

@[simp] theorem data_pos (c : Core) : c.data.pos = c.pos := rfl
@[simp] theorem data_env (c : Core) : c.data.env = c.env := rfl
@[simp] theorem lift_none (s : VMState) : lift s none = s.backtrack := rfl

theorem lift_anchor (s : VMState) (cond neg : Bool) : s.anchor cond neg = lift s (anchorD s.core.data cond neg) := by
  unfold VMState.anchor anchorD
  rw [apply_ite (lift s)]
  simp only [lift_next, lift_none]

theorem lift_matchLit (text : Bytes) (s : VMState) (v : Bytes) (neg cl : Bool) :
    s.matchLit text v neg cl = lift s (litD text v neg cl s.core.data) := by
  unfold VMState.matchLit litD
  rw [apply_ite (lift s), apply_ite (lift s)]
  simp only [lift_consumeNext, lift_none, data_pos]
  rfl

theorem lift_matchRangeLoop (text : Bytes) (s : VMState) (lo hi : Bytes) (neg : Bool) (k : Nat) :
    matchRangeLoop text s lo hi neg k = lift s (rangeLoopD text lo hi neg s.core.data k) := by
  induction k with
  | zero => rfl
  | succ k ih =>
    unfold matchRangeLoop rangeLoopD
    rw [apply_ite (lift s), apply_ite (lift s)]
    simp only [lift_consumeNext, ih, data_pos]
    rfl

theorem lift_matchRange (text : Bytes) (s : VMState) (lo hi : Bytes) (neg : Bool) :
    s.matchRange text lo hi neg = lift s (rangeD text lo hi neg s.core.data) :=
  lift_matchRangeLoop text s lo hi neg _

theorem lift_matchClass (text : Bytes) (s : VMState) (c : Class) (neg : Bool) :
    s.matchClass text c neg = lift s (classD text c neg s.core.data) := by
  unfold VMState.matchClass classD
  cases c with
  | digit | upper | lower => exact lift_matchRange text s _ _ neg
  | fileStart | fileEnd | lineEnd => exact lift_anchor s _ neg
  | _ =>
    -- conditionals over `anchor`, `next`, `backtrack` and `consumeNext`: push `lift` through them; `rfl` then reads
    -- `s.core.data.pos` as `s.core.pos` (with `data_pos` in the list, `apply_ite` does not apply to the right side)
    simp only [apply_ite (lift s), lift_anchor, lift_consumeNext, lift_next, lift_none]
    rfl

theorem step_atom (pf : Nat) (prog : List Instr) (text : Bytes) (s : VMState) (a : Atom)
    (h : prog[s.core.pc]? = some (genAtom a)) : step pf prog text s = lift s (atomD text a s.core.data) := by
  unfold step
  rw [h]
  cases a with
  | str neg cl v => exact lift_matchLit text s v neg cl
  | cls neg c => exact lift_matchClass text s c neg
  | range lo hi => exact lift_matchRange text s lo hi false

theorem step_mvar (pf : Nat) (prog : List Instr) (text : Bytes) (s : VMState) (x : String)
    (h : prog[s.core.pc]? = some (.mvar x)) : step pf prog text s = lift s (backrefD text x s.core.data) := by
  unfold step
  rw [h]
  simp only [backrefD, data_env]
  cases s.core.env.get x with
  | none => rfl
  | some v =>
    cases v with
    | map m => rfl
    | str b =>
      simp only
      rw [apply_ite (lift s)]
      simp only [lift_next, lift_matchLit]

end Vore

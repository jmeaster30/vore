import Vore.Spec.Search
import Vore.Lemmas.AtomsFrame
/-!
# Vore.Lemmas.SimBase — vocabulary of the simulation proof (C01)

`Ev s r`: the VM, started in `s`, finishes with the result `r` (some fuel suffices).
`Rep bt fk`: backtracking into the saved states `bt` realises the failure continuation `fk`.
`KOk pc L V C ks`: the VM at `pc` with stacks `(L, V, C)` realises the success continuation `ks`.
`At prog off code`: `code` sits in `prog` at offset `off`, with the lemmas that take such a placement apart.
Also the projections of `mkCore` states.
-/
namespace Vore
open Vore.Spec

def outcomeRes : Outcome → Option SRes
  | .success c => some (.matched c.data)
  | .fail => some .fail
  | _ => none

section
variable (pf : Nat) (prog : List Instr) (text : Bytes)

def Ev (s : VMState) (r : SRes) : Prop :=
  ∃ n o, run pf prog text n s = some o ∧ outcomeRes o = some r

def EvBt : List Core → SRes → Prop
  | [], r => r = .fail
  | c :: rest, r => Ev pf prog text ⟨c, rest⟩ r

def Rep (bt : List Core) (fk : FK) : Prop := ∀ r, fk () = some r → EvBt pf prog text bt r

def KOk (pc : Nat) (L : List LoopSt) (V : List (String × Nat)) (C : List CallSt) (ks : SK) : Prop :=
  ∀ ⦃d fk' bt' r⦄, Rep pf prog text bt' fk' → ks d fk' = some r → Ev pf prog text ⟨mkCore pc d L V C, bt'⟩ r

variable {pf prog text}

theorem KOk.cast {a b : Nat} {L V C ks} (h : KOk pf prog text a L V C ks) (e : a = b) : KOk pf prog text b L V C ks :=
  e ▸ h

/-- the result of a step, as an evaluation claim -/
def EvStep (pf : Nat) (prog : List Instr) (text : Bytes) : Step → SRes → Prop
  | .cont s, r => Ev pf prog text s r
  | .done o, r => outcomeRes o = some r

theorem ev_of_step {s : VMState} {r : SRes} {i : Instr} (hi : prog[s.core.pc]? = some i)
    (h : EvStep pf prog text (step pf prog text s) r) : Ev pf prog text s r := by
  have hlt : ¬ s.core.pc ≥ prog.length := Nat.not_le.mpr (List.getElem?_eq_some_iff.mp hi).1
  cases hs : step pf prog text s with
  | cont s' =>
    rw [hs] at h
    obtain ⟨n, o, hn, ho⟩ := h
    exact ⟨n + 1, o, by simp [run, hlt, hs, hn], ho⟩
  | done o => rw [hs] at h; exact ⟨1, o, by simp [run, hlt, hs], h⟩

theorem ev_step {s s' : VMState} {r : SRes} {i : Instr} (hi : prog[s.core.pc]? = some i)
    (hs : step pf prog text s = .cont s') (h : Ev pf prog text s' r) : Ev pf prog text s r :=
  ev_of_step hi (by rw [hs]; exact h)

theorem evStep_backtrack {c : Core} {bt : List Core} {r : SRes} (h : EvBt pf prog text bt r) :
    EvStep pf prog text (VMState.backtrack ⟨c, bt⟩) r := by
  cases bt with
  | nil => simp only [EvBt] at h; subst h; rfl
  | cons c' rest => exact h

theorem ev_lift {s : VMState} {r : SRes} {o : Option Data} {i : Instr} (hi : prog[s.core.pc]? = some i)
    (hs : step pf prog text s = lift s o)
    (hsome : ∀ d, o = some d → Ev pf prog text ⟨mkCore (s.core.pc + 1) d s.core.loops s.core.vars s.core.calls, s.bt⟩ r)
    (hnone : o = none → EvBt pf prog text s.bt r) : Ev pf prog text s r := by
  cases o with
  | some d => exact ev_step hi hs (hsome d rfl)
  | none => exact ev_of_step hi (by rw [hs]; exact evStep_backtrack (hnone rfl))

theorem evBt_cons {c : Core} {bt : List Core} {r : SRes} (h : Ev pf prog text ⟨c, bt⟩ r) :
    EvBt pf prog text (c :: bt) r := h

theorem rep_congr {bt : List Core} {fk fk' : FK} (h : Rep pf prog text bt fk) (he : ∀ u, fk' u = fk u) :
    Rep pf prog text bt fk' := by
  intro r hr; rw [he] at hr; exact h r hr

end

def At (prog : List Instr) (off : Nat) (code : List Instr) : Prop :=
  ∀ i, i < code.length → prog[off + i]? = code[i]?

theorem At.app_left {prog off a b} (h : At prog off (a ++ b)) : At prog off a := by
  intro i hi
  have := h i (by simp; omega)
  rw [this, List.getElem?_append_left hi]

theorem At.app_right {prog off a b} (h : At prog off (a ++ b)) : At prog (off + a.length) b := by
  intro i hi
  have := h (a.length + i) (by simp; omega)
  rw [Nat.add_assoc, this, List.getElem?_append_right (by omega)]
  simp

theorem At.head {prog off i rest} (h : At prog off (i :: rest)) : prog[off]? = some i := by
  have := h 0 (by simp)
  simpa using this

theorem At.cast {prog a b code} (h : At prog a code) (e : a = b) : At prog b code := e ▸ h

theorem At.tail {prog off i rest} (h : At prog off (i :: rest)) : At prog (off + 1) rest := by
  have := At.app_right (a := [i]) (b := rest) (by simpa using h)
  simpa using this

/-- an expression's code between its opening and its closing instruction -/
theorem At.bracket {prog off i0 body i1} (h : At prog off ([i0] ++ body ++ [i1])) :
    prog[off]? = some i0 ∧ At prog (off + 1) body ∧ prog[off + 1 + body.length]? = some i1 :=
  ⟨h.app_left.app_left.head, h.app_left.app_right, (h.app_right.cast (by simp; omega)).head⟩

/-- the code of a choice: two expressions' codes between a branch, the jump behind the first and the jump behind the second -/
theorem At.bracket2 {prog off i0 a i1 b i2} (h : At prog off ([i0] ++ a ++ [i1] ++ b ++ [i2])) :
    prog[off]? = some i0 ∧ At prog (off + 1) a ∧ prog[off + 1 + a.length]? = some i1 ∧
      At prog (off + 2 + a.length) b ∧ prog[off + 2 + a.length + b.length]? = some i2 := by
  obtain ⟨h0, ha, h1⟩ := h.app_left.app_left.bracket
  exact ⟨h0, ha, h1, h.app_left.app_right.cast (by simp; omega), (h.app_right.cast (by simp; omega)).head⟩

@[simp] theorem mkCore_pc (pc d L V C) : (mkCore pc d L V C).pc = pc := rfl
@[simp] theorem mkCore_pos (pc d L V C) : (mkCore pc d L V C).pos = d.pos := rfl
@[simp] theorem mkCore_data (pc d L V C) : (mkCore pc d L V C).data = d := rfl
@[simp] theorem mkCore_loops (pc d L V C) : (mkCore pc d L V C).loops = L := rfl
@[simp] theorem mkCore_vars (pc d L V C) : (mkCore pc d L V C).vars = V := rfl
@[simp] theorem mkCore_calls (pc d L V C) : (mkCore pc d L V C).calls = C := rfl

end Vore

import Vore.Extracted
/-!
# Vore.Lemmas.TablesTie — the hand-written model equals the interpreted regenerated tables

Each theorem is a finite case analysis (operator × operand types) with the operand *values*
universally quantified.  A one-token edit of `checkBinaryExpr`, `checkUnaryExpr`,
`checkReturn`, `executeBinaryExpr` or `executeUnaryExpression` in /repo changes
`Vore/Extracted.lean` and makes one of these fail.
-/
namespace Vore
open Vore.Tables Vore.Extracted

/-- `PT` has three elements: a statement about all operand types is decided on them -/
instance {p : PT → Prop} [DecidablePred p] : Decidable (∀ t, p t) :=
  decidable_of_iff (p .string ∧ p .number ∧ p .boolean)
    ⟨fun ⟨a, b, c⟩ t => by cases t <;> assumption, fun h => ⟨h _, h _, h _⟩⟩

theorem binType_eq_table (l r : PT) (op : Op) :
    binType l r op = typeFromTable goTyping l r op := by
  cases op with
  | other _ => cases l <;> cases r <;> rfl
  | _ => revert l r; decide +kernel

theorem unType_eq_table (t : PT) (op : Op) :
    unType t op = unTypeFromTable goTyping t op := by
  cases op with
  | other _ => cases t <;> rfl
  | _ => revert t; decide +kernel

theorem retOK_eq_table (ctx : Ctx) (t : PT) :
    retOK ctx t = retFromTable goTyping ctx t := by
  cases ctx <;> cases t <;> rfl

/-- what `EvalCell.run` does with the result of the Go operator -/
def GoRes.wrapped (w : Wrap) : GoRes → EvalRes
  | .val g => match w.apply g with | some v => .val v | none => .panic illTypedTag
  | .panic t => .panic t
  | .illTyped => .panic illTypedTag

/-- the case analysis follows the dispatch of `executeBinaryExpr` (left operand's type, then
operator).  Under a string the cells test the right operand's type before the operator, so `r`
stays a variable only for the seven string operators, which come first in the chain.  Every arm
agrees by computation; `/` and `%` carry the zero-divisor guard through the wrapping. -/
theorem evalBin_eq_table (op : Op) (l r : PVal) :
    evalBin op l r = evalFromTable goEval op l r := by
  cases l with
  | str _ =>
    cases op with
    | plus | dequal | nequal | less | greater | lesseq | greatereq => rfl
    | div | mod =>
      cases r with
      | num m => exact Eq.symm (apply_ite (GoRes.wrapped .number) (m = 0) _ _)
      | _ => rfl
    | _ => cases r <;> rfl
  | num _ =>
    cases op with
    | div | mod => exact Eq.symm (apply_ite (GoRes.wrapped .number) (r.getNumber = 0) _ _)
    | _ => rfl
  | bool _ => cases op <;> rfl

theorem evalUn_eq_table (op : Op) (v : PVal) :
    unFromTable goEval op v = .val (evalUn op v) := by
  cases op with
  | head =>
    show UnShape.run (.slice .getString 0 0 (some 1)) v = _
    simp only [UnShape.run, Coerce.apply, evalUn]
    cases v.getString <;> simp
  | tail =>
    show UnShape.run (.slice .getString 1 1 none) v = _
    simp only [UnShape.run, Coerce.apply, evalUn, Option.getD_none, List.take_length]
    split
    · rw [List.drop_eq_nil_of_le (by omega)]
    · rw [if_pos (by omega)]
  | _ => rfl

/-- every inner chain of `executeBinaryExpr` is closed by the undefined-operation panic -/
theorem goEval_else_panics : elsePanicsOK goEval = true := by decide +kernel

theorem evalExpr_eq_table (ρ : PEnv) (e : PExpr) : evalExpr ρ e = evalExprWith goEval ρ e := by
  induction e with
  | un _ e ih =>
    simp only [evalExpr, evalExprWith, ← ih, evalUn_eq_table]
    -- the sides now print alike: the same `match`, compiled once for each evaluator
    rfl
  | bin _ l r ihl ihr =>
    simp only [evalExpr, evalExprWith, ← ihl, ← ihr, evalBin_eq_table]
    rfl
  | _ => rfl

end Vore

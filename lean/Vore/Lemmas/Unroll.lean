import Vore.Lemmas.GenR
/-!
# Vore.Lemmas.Unroll — the call-free fragment as a sublanguage of the resolved core language

`unroll e` writes a call-free `Expr` as a resolved expression: every counted loop becomes its mandatory copies
followed by a `star`, exactly as `genCF` emits it and `Spec.m` reads it.  `genR` on `unroll e` is `genCF e` and
`mrWith` on `unroll e` is `Spec.m e`, so a statement about resolved expressions specialises to the call-free
fragment: the simulation is proved once, for `RExpr` (`Lemmas/SimR.lean`), and `attempt_sim`, `findMatches_spec`
(`Lemmas/SimTop.lean`) are its instances at `unroll e`.
-/
namespace Vore
open Vore.Spec

def unroll : Expr → RExpr
  | .empty => .empty
  | .seq a b => .seq (unroll a) (unroll b)
  | .atom a => .atom a
  | .var x => .backref x
  | .loop mn mx fewest _ body =>
    if (mn : Int) == mx then seqOf (List.replicate mn (unroll body))
    else .seq (seqOf (List.replicate mn (unroll body))) (.star (loopMax mn mx) fewest (unroll body))
  | .branch l r => .branch (unroll l) (unroll r)
  | .dec x body => .dec x (unroll body)
  | .sub _ _ => .empty
  | .inl neg items => .inl neg items

theorem genR_replicate (pcOf : Nat → Nat) (r : RExpr) : ∀ n off nid,
    genR pcOf (seqOf (List.replicate n r)) off nid = repCF (genR pcOf r) n off nid
  | 0, _, _ => rfl
  | n + 1, off, nid => by simp only [List.replicate_succ, seqOf, genR, repCF, genR_replicate pcOf r n]

theorem genR_unroll (pcOf : Nat → Nat) (e : Expr) : genR pcOf (unroll e) = genCF e := by
  induction e with
  | loop mn mx fewest name body ih =>
    funext off nid
    simp only [unroll, genCF]
    split
    · rw [genR_replicate, ih]
    · simp only [genR, genR_replicate, ih, List.append_assoc]
  | seq a b iha ihb => funext off nid; simp only [unroll, genR, genCF, iha, ihb]
  | branch l r ihl ihr => funext off nid; simp only [unroll, genR, genCF, ihl, ihr]
  | dec x body ih => funext off nid; simp only [unroll, genR, genCF, ih]
  | inl neg items => funext off nid; cases neg <;> rfl
  | _ => rfl

theorem lenR_replicate (r : RExpr) : ∀ n, lenR (seqOf (List.replicate n r)) = n * lenR r
  | 0 => by simp [seqOf, lenR]
  | n + 1 => by simp only [List.replicate_succ, seqOf, lenR, lenR_replicate r n, Nat.succ_mul, Nat.add_comm]

theorem lenR_unroll (e : Expr) : lenR (unroll e) = codeLen e := by
  induction e with
  | loop mn mx fewest name body ih =>
    simp only [unroll, codeLen]
    split <;> simp only [lenR, lenR_replicate, ih, Nat.add_assoc]
  | seq a b iha ihb => simp only [unroll, lenR, codeLen, iha, ihb]
  | branch l r ihl ihr => simp only [unroll, lenR, codeLen, ihl, ihr]
  | dec x body ih => simp only [unroll, lenR, codeLen, ih]
  | inl neg items => cases neg <;> rfl
  | _ => rfl

theorem genCF_length (e : Expr) (off nid : Nat) : (genCF e off nid).1.length = codeLen e := by
  rw [← genR_unroll id, genR_length, lenR_unroll]

theorem genCF_nid_mono (e : Expr) (off nid : Nat) : nid ≤ (genCF e off nid).2 := by
  rw [← genR_unroll id]
  exact genR_nid_mono id _ off nid

theorem mrWith_replicate {text : Bytes} {lf pf : Nat} {ρ : Procs} {K : RExpr → Data → SK → FK → Option SRes}
    (r : RExpr) : ∀ n d ks fk,
    mrWith text lf pf ρ K (seqOf (List.replicate n r)) d ks fk = Spec.repeatM (mrWith text lf pf ρ K r) n d ks fk
  | 0, _, _, _ => rfl
  | n + 1, d, ks, fk => by
    rw [List.replicate_succ, seqOf]
    unfold mrWith
    simp only [Spec.repeatM, mrWith_replicate r n]

/-- no subroutine is ever called in `unroll e`, so `ρ` and `K` are arbitrary -/
theorem mrWith_unroll {text : Bytes} {lf pf : Nat} {ρ : Procs} {K : RExpr → Data → SK → FK → Option SRes}
    (e : Expr) (hcf : CallFree e) : mrWith text lf pf ρ K (unroll e) = m text lf e := by
  induction e with
  | loop mn mx fewest name body ih =>
    funext d ks fk
    -- `unroll` tests `mn = mx` outside, `m` inside the continuation of the mandatory copies: decide it first
    cases h : (mn : Int) == mx
    · simp only [unroll, m, h, Bool.false_eq_true, if_false, mrWith, mrWith_replicate, ih hcf.2, loopMax]
    · simp only [unroll, m, h, if_true, mrWith_replicate, ih hcf.2]
  | seq a b iha ihb => funext d ks fk; simp only [unroll, mrWith, m, iha hcf.1, ihb hcf.2]
  | branch l r ihl ihr => funext d ks fk; simp only [unroll, mrWith, m, ihl hcf.1, ihr hcf.2]
  | dec x body ih => funext d ks fk; simp only [unroll, mrWith, m, ih hcf]
  | sub x body => exact hcf.elim
  | inl neg items => funext d ks fk; cases neg <;> rfl
  | _ => rfl

theorem pcMap_replicate {r : RExpr} (h : ∀ off, pcMap r off = []) : ∀ n off, pcMap (seqOf (List.replicate n r)) off = []
  | 0, _ => rfl
  | n + 1, off => by simp only [List.replicate_succ, seqOf, pcMap, h, pcMap_replicate h n, List.append_nil]

theorem unroll_wf (e : Expr) (hcf : CallFree e) : WfR (unroll e) := by
  induction e with
  | loop mn mx fewest name body ih =>
    have hpre : WfR (seqOf (List.replicate mn (unroll body))) :=
      wfR_seqOf _ (fun r hr => by rw [List.eq_of_mem_replicate hr]; exact ih hcf.2)
    simp only [unroll]
    split
    · exact hpre
    · exact ⟨hpre, ih hcf.2⟩
  | seq _ _ iha ihb | branch _ _ iha ihb => exact ⟨iha hcf.1, ihb hcf.2⟩
  | dec _ _ ih => exact ih hcf
  | inl _ _ => exact hcf
  | _ => trivial

/-- `unroll e` has no subroutine node (a `sub` of the source, outside the fragment, becomes `empty`) -/
theorem pcMap_unroll (e : Expr) : ∀ off, pcMap (unroll e) off = [] := by
  induction e with
  | loop mn mx fewest name body ih =>
    intro off
    simp only [unroll]
    split
    · exact pcMap_replicate ih mn off
    · simp only [pcMap, pcMap_replicate ih mn, ih, List.append_nil]
  | seq _ _ iha ihb | branch _ _ iha ihb => intro off; simp only [unroll, pcMap, iha, ihb, List.append_nil]
  | dec _ _ ih => intro off; exact ih _
  | _ => intro off; rfl

theorem unroll_consistent (pcOf : Nat → Nat) (e : Expr) (off : Nat) : Consistent pcOf (unroll e) off :=
  consistent_of_agree pcOf _ off (fun id pc h => by rw [pcMap_unroll] at h; cases h)

theorem attemptR_unroll (text : Bytes) (lf pf cf : Nat) (e : Expr) (hcf : CallFree e) :
    attemptR text lf pf cf (unroll e) = attempt text lf e := by
  funext pos line col
  cases cf <;> simp only [attemptR, mrN, mrWith_unroll e hcf, attempt]

theorem findAllR_unroll (text : Bytes) (pf cf : Nat) (e : Expr) (hcf : CallFree e) :
    findAllR text pf cf (unroll e) = findAll text e := by
  simp only [findAllR, findAll, scanAll, attemptR_unroll _ _ _ _ e hcf]

end Vore

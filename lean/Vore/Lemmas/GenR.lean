import Vore.Spec.Core
import Vore.Lemmas.GenCF
/-!
# Vore.Lemmas.GenR — the code generator on resolved expressions

`genR pcOf e off nid`: the code of the resolved expression `e` at absolute offset `off`, loop ids from
`nid`, call targets from `pcOf` (subroutine id ↦ address of its `StartSubroutine`).  `pcMap` computes
those addresses; `genBody` ties the knot for a whole command body.  Together with `Spec.resolveN`
this is the two-pass reading of generate.go (resolve names and unroll, then emit); the compiled
driver prints its bytecode next to the one-pass transcription `Vore.gen`, and the correspondence run
compares both with the real generator's on every case.
-/
namespace Vore
open Vore.Spec

def lenR : RExpr → Nat
  | .empty => 0
  | .seq a b => lenR a + lenR b
  | .atom _ => 1
  | .backref _ => 1
  | .call _ _ => 1
  | .star _ _ body => lenR body + 2
  | .branch l r => lenR l + lenR r + 3
  | .dec _ body => lenR body + 2
  | .sub _ _ body _ => lenR body + 2
  | .inl false items => 1 + 2 * items.length
  | .inl true items => 3 * items.length + 1

def genR (pcOf : Nat → Nat) : RExpr → Nat → Nat → List Instr × Nat
  | .empty, _, nid => ([], nid)
  | .seq a b, off, nid =>
    let ra := genR pcOf a off nid
    let rb := genR pcOf b (off + ra.1.length) ra.2
    (ra.1 ++ rb.1, rb.2)
  | .atom a, _, nid => ([genAtom a], nid)
  | .backref x, _, nid => ([.mvar x], nid)
  | .call x id, _, nid => ([.call x (pcOf id)], nid)
  | .star mx fewest body, off, nid =>
    let rb := genR pcOf body (off + 1) nid
    ([.startLoop rb.2 0 mx fewest (off + rb.1.length + 1) ""] ++ rb.1 ++ [.stopLoop rb.2 off], rb.2 + 1)
  | .branch l r, off, nid =>
    let rl := genR pcOf l (off + 1) nid
    let rr := genR pcOf r (off + 2 + rl.1.length) rl.2
    let e := off + rl.1.length + rr.1.length + 3
    ([.branch [off + 1, off + rl.1.length + 2]] ++ rl.1 ++ [.jump e] ++ rr.1 ++ [.jump e], rr.2)
  | .dec x body, off, nid =>
    let rb := genR pcOf body (off + 1) nid
    ([.startVar x] ++ rb.1 ++ [.endVar x], rb.2)
  | .sub _ x body pred, off, nid =>
    let rb := genR pcOf body (off + 1) nid
    ([.startSub off x (off + 1 + rb.1.length)] ++ rb.1 ++ [.endSub x pred], rb.2)
  | .inl false items, off, nid =>
    ([.branch ((List.range items.length).map (fun i => off + 1 + 2 * i))] ++ genInItems items (off + 1 + 2 * items.length), nid)
  | .inl true items, off, nid => (genNotInItems items off ++ [.endNotIn (listMaxSize items)], nid)

/-- where every subroutine node of `e` (placed at `off`) starts -/
def pcMap : RExpr → Nat → List (Nat × Nat)
  | .empty, _ => []
  | .seq a b, off => pcMap a off ++ pcMap b (off + lenR a)
  | .atom _, _ => []
  | .backref _, _ => []
  | .call _ _, _ => []
  | .star _ _ body, off => pcMap body (off + 1)
  | .branch l r, off => pcMap l (off + 1) ++ pcMap r (off + 2 + lenR l)
  | .dec _ body, off => pcMap body (off + 1)
  | .sub id _ body _, off => (id, off) :: pcMap body (off + 1)
  | .inl _ _, _ => []

def pcLookup (m : List (Nat × Nat)) (id : Nat) : Nat := ((m.find? (·.1 == id)).map (·.2)).getD 0

def genBody (e : RExpr) (nid : Nat) : List Instr × Nat := genR (pcLookup (pcMap e 0)) e 0 nid

/-- every subroutine node of `e`, placed at `off`, sits where `pcOf` says -/
def Consistent (pcOf : Nat → Nat) : RExpr → Nat → Prop
  | .empty, _ => True
  | .seq a b, off => Consistent pcOf a off ∧ Consistent pcOf b (off + lenR a)
  | .atom _, _ => True
  | .backref _, _ => True
  | .call _ _, _ => True
  | .star _ _ body, off => Consistent pcOf body (off + 1)
  | .branch l r, off => Consistent pcOf l (off + 1) ∧ Consistent pcOf r (off + 2 + lenR l)
  | .dec _ body, off => Consistent pcOf body (off + 1)
  | .sub id _ body _, off => pcOf id = off ∧ Consistent pcOf body (off + 1)
  | .inl _ _, _ => True

/-- `in` lists are non-empty (the parser guarantees it; an empty `Branch` would panic) -/
def WfR : RExpr → Prop
  | .empty => True
  | .seq a b => WfR a ∧ WfR b
  | .atom _ => True
  | .backref _ => True
  | .call _ _ => True
  | .star _ _ body => WfR body
  | .branch l r => WfR l ∧ WfR r
  | .dec _ body => WfR body
  | .sub _ _ body _ => WfR body
  | .inl neg items => neg = true ∨ items ≠ []

theorem Spec.Procs.mem_of_find {ρ : Procs} {id : Nat} {q : String × RExpr × Stmt} (h : ρ.find id = some q) :
    (id, q) ∈ ρ := by
  obtain ⟨ent, hfind, rfl⟩ := Option.map_eq_some_iff.mp h
  have hid : ent.1 = id := by simpa using List.find?_some hfind
  exact hid ▸ List.mem_of_find?_eq_some hfind

theorem wfR_seqOf : ∀ rs : List RExpr, (∀ r ∈ rs, WfR r) → WfR (seqOf rs)
  | [], _ => trivial
  | r :: rs, h => ⟨h r (by simp), wfR_seqOf rs (fun r' hr' => h r' (by simp [hr']))⟩

theorem genR_length (pcOf : Nat → Nat) (e : RExpr) (off nid : Nat) : (genR pcOf e off nid).1.length = lenR e := by
  induction e generalizing off nid with
  | seq a b iha ihb => simp [genR, lenR, iha, ihb]
  | star _ _ _ ih | dec _ _ ih | sub _ _ _ _ ih => simp [genR, lenR, ih]
  | branch l r ihl ihr =>
    simp [genR, lenR, ihl, ihr]
    omega
  | inl neg items =>
    cases neg
    · simp [genR, lenR, genInItems_length]
      omega
    · simp [genR, lenR, genNotInItems_length]
  | _ => rfl

theorem genR_nid_mono (pcOf : Nat → Nat) (e : RExpr) (off nid : Nat) : nid ≤ (genR pcOf e off nid).2 := by
  induction e generalizing off nid with
  | seq _ _ iha ihb | branch _ _ iha ihb => exact Nat.le_trans (iha _ _) (ihb _ _)
  | star _ _ _ ih => exact Nat.le_trans (ih _ _) (Nat.le_succ _)
  | dec _ _ ih | sub _ _ _ _ ih => exact ih _ _
  | inl neg _ => cases neg <;> exact Nat.le_refl _
  | _ => exact Nat.le_refl _

theorem consistent_of_agree (pcOf : Nat → Nat) (e : RExpr) (off : Nat)
    (h : ∀ id pc, (id, pc) ∈ pcMap e off → pcOf id = pc) : Consistent pcOf e off := by
  induction e generalizing off with
  | seq _ _ iha ihb | branch _ _ iha ihb =>
    exact ⟨iha _ (fun id pc hm => h id pc (List.mem_append_left _ hm)),
           ihb _ (fun id pc hm => h id pc (List.mem_append_right _ hm))⟩
  | star _ _ _ ih | dec _ _ ih => exact ih _ h
  | sub i _ _ _ ih => exact ⟨h i off List.mem_cons_self, ih _ (fun id pc hm => h id pc (List.mem_cons_of_mem _ hm))⟩
  | _ => trivial

theorem pcLookup_of_nodup : ∀ (m : List (Nat × Nat)), (m.map (·.1)).Nodup →
    ∀ id pc, (id, pc) ∈ m → pcLookup m id = pc
  | kv :: rest, hnd, id, pc, hmem => by
    rw [List.map_cons, List.nodup_cons] at hnd
    unfold pcLookup
    rw [List.find?_cons]
    rcases List.mem_cons.mp hmem with rfl | hmem
    · simp
    · have hne : (kv.1 == id) = false := by
        simpa using fun he : kv.1 = id => hnd.1 (he ▸ List.mem_map_of_mem (f := (·.1)) hmem)
      rw [hne]
      exact pcLookup_of_nodup rest hnd.2 id pc hmem

end Vore

import Vore.Lemmas.LexString
/-!
# Vore.Lemmas.LexTokens — the equations of `getTokens`/`getNextToken`, and `Run`, the layer between `step` and the lemmas about single tokens
-/
namespace Vore.Lex
open Vore Vore.ExtractedLex

theorem getTokens_tok {r : Reader} {t : Token} {r' : Reader} (h : getNextToken r = .tok t r') :
    getTokens r = if t.kind = .eof then .tokens [t] else (getTokens r').cons t := by
  rw [getTokens]
  split <;> simp_all

theorem getTokens_err (r : Reader) (e : ErrKind) (a b : Nat) (h : getNextToken r = .err e a b) :
    getTokens r = .lexError e a b := by
  rw [getTokens]
  split <;> simp_all

theorem getNextToken_of_loop {rest : Bytes} {p : Nat} {l : Option UInt8} {s : St} {buf rest' : Bytes} {q : Nat}
    {l' : Option UInt8} {k : Tok} (hl : loop .start [] ⟨rest, p, l⟩ = .done s buf ⟨rest', q, l'⟩)
    (hf : finalAct s buf = .tok k) : getNextToken ⟨rest, p, l⟩ = .tok ⟨k, buf, p, q⟩ ⟨rest', q, l'⟩ := by
  unfold getNextToken
  rw [hl]; simp only [hf]

/-! ## runs of the loop

`Run s w s'` is what every per-token proof is about: the states the chain passes through on the characters it appends.
Positions and buffers are dealt with once, in `loop_run`, `tok_brk` and `tok_unread`. -/

/-- `Run s w s'`: entered in state `s`, the loop goes on over every character of `w`, writing each, and is then in `s'` -/
inductive Run : St → Bytes → St → Prop
  | nil {s : St} : Run s [] s
  | cons {s s₁ s' : St} {c : UInt8} {cs : Bytes} : c ≠ 0 → step s c = .next s₁ true → Run s₁ cs s' → Run s (c :: cs) s'

theorem Run.append {s s₁ s' : St} {w v : Bytes} (h : Run s w s₁) (h' : Run s₁ v s') : Run s (w ++ v) s' := by
  induction h with
  | nil => exact h'
  | cons hc hs _ ih => exact .cons hc hs (ih h')

theorem Run.self {s : St} {w : Bytes} (hw : ∀ c ∈ w, c ≠ 0 ∧ step s c = .next s true) : Run s w s := by
  induction w with
  | nil => exact .nil
  | cons c cs ih =>
    obtain ⟨hc, hcs⟩ := List.forall_mem_cons.mp hw
    exact .cons hc.1 hc.2 (ih hcs)

theorem loop_run {s s' : St} {w : Bytes} (h : Run s w s') (rest : Bytes) (buf : Bytes) (p : Nat) (l : Option UInt8) :
    ∃ l', loop s buf ⟨w ++ rest, p, l⟩ = loop s' (buf ++ w) ⟨rest, p + w.length, l'⟩ := by
  induction h generalizing buf p l with
  | nil => exact ⟨l, by simp⟩
  | @cons _ _ _ c cs hc hs _ ih =>
    obtain ⟨l', h⟩ := ih (buf ++ [c]) (p + 1) (some c)
    refine ⟨l', ?_⟩
    rw [List.cons_append, loop_next hc hs, h, List.append_assoc, List.length_cons, Nat.add_assoc, Nat.add_comm 1]
    rfl

/-- **a token that ends on a character the chain breaks on** (punctuation, two-character operators, block comments) -/
theorem tok_brk {w : Bytes} {s s' : St} {c : UInt8} {k : Tok} (hrun : Run .start w s) (hc : c ≠ 0)
    (hs : step s c = .brk s' true) (hk : finalAct s' (w ++ [c]) = .tok k) (rest : Bytes) (p : Nat) (l : Option UInt8) :
    getNextToken ⟨w ++ c :: rest, p, l⟩ = .tok ⟨k, w ++ [c], p, p + w.length + 1⟩ ⟨rest, p + w.length + 1, some c⟩ := by
  obtain ⟨l', h⟩ := loop_run hrun (c :: rest) [] p l
  refine getNextToken_of_loop ?_ hk
  rw [h, loop_cons hc, hs]
  rfl

/-- **a token that ends in front of what the chain un-reads**: the end of the input, a NUL byte, or a character on which
the chain un-reads, possibly into another state with the same `case` (a line comment without text: SCOMMENTSTART to
SCOMMENT) -/
theorem tok_unread {w rest : Bytes} {s : St} {k : Tok} (hrun : Run .start w s) (hs : s ≠ .start)
    (hk : finalAct s w = .tok k)
    (hrest : ∀ c, rest.head? = some c → ∃ s', step s c = .unreadBrk s' ∧ finalAct s' w = .tok k) (p : Nat)
    (l : Option UInt8) : ∃ q l', getNextToken ⟨w ++ rest, p, l⟩ = .tok ⟨k, w, p, q⟩ ⟨rest, q, l'⟩ := by
  obtain ⟨l₁, h⟩ := loop_run hrun rest [] p l
  cases rest with
  | nil =>
    -- the failed `read` pushes no position: the un-read pops one that was pushed for `w`
    have hp : w ≠ [] := by rintro rfl; cases hrun; exact hs rfl
    refine ⟨p + w.length - 1, none, getNextToken_of_loop ?_ hk⟩
    rw [h, loop]; simp [Reader.read, hs, unreadBreak, Reader.unreadLast, hp]
  | cons c cs =>
    by_cases hc : c = 0
    · refine ⟨p + w.length, none, getNextToken_of_loop ?_ hk⟩
      rw [h, loop]; simp [Reader.read, hc, hs, unreadBreak, Reader.unreadLast]
    · obtain ⟨s', hst, hk'⟩ := hrest c rfl
      refine ⟨p + w.length, none, getNextToken_of_loop ?_ hk'⟩
      rw [h, loop_cons hc, hst]; simp [unreadBreak, Reader.unreadLast]

/-- **a token that ends by look-ahead** (words, numbers, blank runs, `=`, `<`, `>`, `-`): the state un-reads and stays -/
theorem tok_lookahead {w rest : Bytes} {s : St} {k : Tok} (hrun : Run .start w s) (hs : s ≠ .start)
    (hk : finalAct s w = .tok k) (hrest : ∀ c, rest.head? = some c → step s c = .unreadBrk s) (p : Nat)
    (l : Option UInt8) : ∃ q l', getNextToken ⟨w ++ rest, p, l⟩ = .tok ⟨k, w, p, q⟩ ⟨rest, q, l'⟩ :=
  tok_unread hrun hs hk (fun c hc => ⟨s, hrest c hc, hk⟩) p l

/-- **words, numbers, blank runs**: state `s` goes on exactly on the characters of class `B`, none of which is NUL -/
theorem tok_class {s : St} (hs : s ≠ .start) {B : UInt8 → Prop} [DecidablePred B]
    (hB : ∀ c, step s c = if B c then .next s true else .unreadBrk s) (hB0 : ∀ c, B c → c ≠ 0)
    {c0 : UInt8} (hc0 : c0 ≠ 0) (h0 : step .start c0 = .next s true) {w : Bytes} (hw : ∀ c ∈ w, B c)
    {rest : Bytes} (hrest : ∀ c, rest.head? = some c → ¬ B c) {k : Tok} (hk : finalAct s (c0 :: w) = .tok k)
    (p : Nat) (l : Option UInt8) :
    ∃ q l', getNextToken ⟨c0 :: (w ++ rest), p, l⟩ = .tok ⟨k, c0 :: w, p, q⟩ ⟨rest, q, l'⟩ :=
  tok_lookahead (.cons hc0 h0 (.self fun c hc => ⟨hB0 c (hw c hc), by rw [hB, if_pos (hw c hc)]⟩)) hs hk
    (fun c hc => by rw [hB, if_neg (hrest c hc)]) p l

theorem getNextToken_nil (pos : Nat) (last : Option UInt8) :
    getNextToken ⟨[], pos, last⟩ = .tok ⟨.eof, [], pos, pos⟩ ⟨[], pos, none⟩ := by
  refine getNextToken_of_loop ?_ (finalAct_of_spec (s := .end_) rfl)
  rw [loop]; simp [Reader.read]

theorem getTokens_nil (pos : Nat) (last : Option UInt8) :
    getTokens ⟨[], pos, last⟩ = .tokens [⟨.eof, [], pos, pos⟩] := by
  rw [getTokens_tok (getNextToken_nil pos last)]; simp

theorem getNextToken_string (q : Quote) (sps : List Sp) (rest : Bytes) (pos : Nat) (last : Option UInt8)
    (hok : okAll q (q.byte :: rest) sps) :
    getNextToken ⟨q.byte :: (renderAll sps ++ q.byte :: rest), pos, last⟩ =
      .tok ⟨.string, denoteAll sps, pos, pos + (renderAll sps).length + 2⟩
        ⟨rest, pos + (renderAll sps).length + 2, some q.byte⟩ := by
  refine getNextToken_of_loop ?_ (finalAct_of_spec (s := .stringEnd) rfl)
  rw [loop_cons q.byte_ne_zero, step_start_quote]
  simp only [Bool.false_eq_true, ↓reduceIte]
  rw [loop_string q sps rest [] (pos + 1) (some q.byte) hok, List.nil_append, Nat.add_right_comm pos 1]

theorem lex_literal (q : Quote) (sps : List Sp) (b : Bytes) (h : Spells q sps b) :
    lex (literal q sps) =
      .tokens [⟨.string, b, 0, (literal q sps).length⟩,
               ⟨.eof, [], (literal q sps).length, (literal q sps).length⟩] := by
  obtain ⟨hok, rfl⟩ := h
  have hlen : (literal q sps).length = (renderAll sps).length + 2 := by simp [literal]
  rw [hlen]
  show getTokens ⟨q.byte :: (renderAll sps ++ q.byte :: []), 0, none⟩ = _
  rw [getTokens_tok (getNextToken_string q sps [] 0 none hok), if_neg nofun, getTokens_nil, Nat.zero_add]
  rfl

end Vore.Lex

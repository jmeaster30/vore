import Vore.Model.LexStep
import Vore.ExtractedLex
/-!
# Vore.Model.Lexer — the lexer (libvore/ast/lexer.go), after the `fix:` commits
`C16-hexescape`, `C08-unending-regexp`, `C08-lexer-final-states`, `C15-empty-line-comment`,
`C15-block-comment-close` (see /verif/fixes).

One Lean function per Go function: `Reader.read`/`unreadLast` (`read`, `unread_last`/`unread(1)`,
the position stack and bufio's single-rune push-back), `getEscapedRune`, `isHex`, `hexToAscii`,
`readEscape`, `step` (the `if … else if …` chain in the loop of `getNextToken`, same order),
`regexpBody` (the inner loop of the `@/…/` branch), `loop` (the `for` loop), `finalAct` (the final
`switch current_state`), `getNextToken`, `getTokens`.  No fuel anywhere: `loop` and `getTokens` are
defined by well-founded recursion on the unread input, and the termination proofs Lean demands
(every iteration of the loop reads a byte; every token other than EOF consumes a byte) are the
"never loops forever" half of C08 for the lexer.

**Domain.**  The Go lexer reads *runes* (`bufio.Reader.ReadRune`; invalid UTF-8 becomes U+FFFD),
counts offsets in runes and classifies them with `unicode.IsSpace/IsDigit/IsLetter`.  The model reads
*bytes*: on ASCII sources rune = byte and rune offset = byte offset; a source that is not ASCII is lexed
through its class image `Vore.Unicode.abstractSource` (one byte per rune: ASCII itself, `0x81/0x82/0x83` for a
non-ASCII letter / digit / space, `0x80` for anything else), see `Vore/Model/Unicode.lean` and
`lexSource` in `Vore/Model/LexSource.lean`.  Lines and columns of tokens are not modelled (no property
here observes them); offsets are.

Quirks that are modelled as they are (none is forbidden by C08/C15/C16):
* a NUL byte behaves like end of input, except that the EOF token then spans one byte;
* `read()` at end of input returns 0 *without* pushing a position, but the `unread_last()` that
  follows pops one: the last token of a source that ends inside a look-ahead state (identifier,
  number, `-`, `=`, …) has an end offset one too small (the repo's lexer tests expect exactly this);
* `\xHH` with HH ≥ 0x80 writes the *rune* U+00HH, i.e. two UTF-8 bytes.

Decisions that are finite tables come from `Vore.ExtractedLex` (regenerated from the Go source on
every check): keywords, operators, escapes, hex ranges, the final switch.
-/
namespace Vore.Lex
open Vore Vore.ExtractedLex

/-! ## characters: `isSpace`, `isDigit`, `isLetter` are in `Vore.Model.LexStep` -/

/-- `IsHex`, from the extracted ranges -/
def isHex (c : UInt8) : Bool := goHexRanges.any (fun p => p.1 ≤ c && c ≤ p.2)

/-- `getEscapedRune`: the extracted `if ch == … return …` chain, then `return ch` -/
def getEscapedRune (c : UInt8) : UInt8 := (goEscapes.lookup c).getD c

/-- value of one hexadecimal digit as `strconv.ParseInt(_, 16, 64)` reads it -/
def hexDigitVal (c : UInt8) : Option UInt8 :=
  if 48 ≤ c ∧ c ≤ 57 then some (c - 48)
  else if 97 ≤ c ∧ c ≤ 102 then some (c - 87)
  else if 65 ≤ c ∧ c ≤ 70 then some (c - 55)
  else none

/-- `HexToAscii`; `none` = `panic("COULDN'T CONVERT")` -/
def hexToAscii (a b : UInt8) : Option UInt8 :=
  match hexDigitVal a, hexDigitVal b with
  | some x, some y => some (x * 16 + y)
  | _, _ => none

/-- `bytes.Buffer.WriteRune` of a rune below U+0100 -/
def writeRune (v : UInt8) : Bytes :=
  if v < 128 then [v] else [(192 : UInt8) ||| (v >>> 6), (128 : UInt8) ||| (v &&& 63)]

/-! ## the reader: `bufio.Reader` + position stack -/

/-- `rest`: what `ReadRune` has not delivered yet; `pos`: the offset on top of the position stack
(every `read` that succeeds pushes `offset+1`, every `unread` pops, so `offset = size − 1`);
`last`: the rune `UnreadRune` would push back (`none` after a failed `ReadRune`, an `UnreadRune`
or a `Peek`: bufio can take back one rune only). -/
structure Reader where
  rest : Bytes
  pos : Nat
  last : Option UInt8
deriving Repr, DecidableEq, Inhabited

/-- `initLexer` -/
def initLexer (src : Bytes) : Reader := ⟨src, 0, none⟩

/-- `read()`: 0 at end of input (no position pushed) -/
def Reader.read (r : Reader) : UInt8 × Reader :=
  match r.rest with
  | [] => (0, { r with last := none })
  | c :: cs => (c, ⟨cs, r.pos + 1, some c⟩)

/-- `unread_last()` = `unread(1)`; `none` = `panic("You can't pop that much!!!")`.
The position is popped whether or not bufio could take the rune back. -/
def Reader.unreadLast (r : Reader) : Option Reader :=
  if r.pos = 0 then none else
  some ⟨match r.last with | some c => c :: r.rest | none => r.rest, r.pos - 1, none⟩

/-- `s.r.Peek(2)` -/
def Reader.peek2 (r : Reader) : Bytes × Reader := (r.rest.take 2, { r with last := none })

/-- `readEscape(ch)` (added by the C16 fix); `none` = the panic of `HexToAscii` -/
def readEscape (ch : UInt8) (r : Reader) : Option (UInt8 × Reader) :=
  if ch = 120 then
    let (digits, r0) := r.peek2
    match digits with
    | [a, b] =>
      if isHex a ∧ isHex b then
        let (n1, r1) := r0.read
        let (n2, r2) := r1.read
        (hexToAscii n1 n2).map (fun v => (v, r2))
      else some (getEscapedRune ch, r0)
    | _ => some (getEscapedRune ch, r0)
  else some (getEscapedRune ch, r)

/-- result of the loop: final state, buffer, reader — or a Go panic -/
inductive LoopRes where
  | done (s : St) (buf : Bytes) (r : Reader)
  | panic (msg : String)
deriving Repr, DecidableEq, Inhabited

def popPanic : String := "You can't pop that much!!!"
def convPanic : String := "COULDN'T CONVERT"
def finalPanic : String := "Unknown final state"

/-- `s.unread_last(); break` -/
def unreadBreak (s : St) (buf : Bytes) (r : Reader) : LoopRes :=
  match r.unreadLast with
  | none => .panic popPanic
  | some r' => .done s buf r'

/-- the inner loop of the `@/…/` branch, starting with the `read()` that delivers `curr_ch`:
stops at `/` (REGEXP) or at 0 (end of input or a NUL byte: unending, after the C08 fix) -/
def regexpBody (buf : Bytes) (pos : Nat) : Bytes → LoopRes
  | [] => .done .regexpUnending buf ⟨[], pos, none⟩
  | c :: cs =>
    if c = 47 then .done .regexp buf ⟨cs, pos + 1, some c⟩
    else if c = 0 then .done .regexpUnending buf ⟨cs, pos + 1, some c⟩
    else regexpBody (buf ++ [c]) (pos + 1) cs

/-- the `@` branch: `next_ch := s.read()`; not `/` → un-read it, SERROR; else the body loop -/
def regexpBranch (buf : Bytes) (r : Reader) : LoopRes :=
  let (next, r1) := r.read
  if next ≠ 47 then unreadBreak .error buf r1
  else regexpBody buf r1.pos r1.rest

theorem read_rest_lt (r : Reader) (h : r.read.1 ≠ 0) : r.read.2.rest.length < r.rest.length := by
  obtain ⟨rest, pos, last⟩ := r
  cases rest with
  | nil => exact absurd rfl h
  | cons c cs => exact Nat.lt_succ_self _

theorem readEscape_hex {a b : UInt8} (ha : isHex a = true) (hb : isHex b = true) (zs : Bytes) (pos : Nat)
    (last : Option UInt8) :
    readEscape 120 ⟨a :: b :: zs, pos, last⟩ = (hexToAscii a b).map fun v => (v, ⟨zs, pos + 1 + 1, some b⟩) := by
  simp [readEscape, Reader.peek2, Reader.read, ha, hb]

/-- every other escape reads nothing more (but `\x` has peeked: bufio can then no longer take back a rune) -/
theorem readEscape_cases (c : UInt8) (r : Reader) :
    (∃ a b zs, c = 120 ∧ r.rest = a :: b :: zs ∧ isHex a = true ∧ isHex b = true ∧
      readEscape c r = (hexToAscii a b).map fun v => (v, ⟨zs, r.pos + 1 + 1, some b⟩)) ∨
    ∃ l, readEscape c r = some (getEscapedRune c, ⟨r.rest, r.pos, l⟩) := by
  obtain ⟨rest, pos, last⟩ := r
  by_cases hc : c = 120
  · subst hc
    match rest with
    | [] => exact .inr ⟨none, rfl⟩
    | [x] => exact .inr ⟨none, rfl⟩
    | x :: y :: zs =>
      by_cases hh : isHex x = true ∧ isHex y = true
      · exact .inl ⟨x, y, zs, rfl, rfl, hh.1, hh.2, readEscape_hex hh.1 hh.2 zs pos last⟩
      · exact .inr ⟨none, by simp [readEscape, Reader.peek2, hh]⟩
  · exact .inr ⟨last, by simp [readEscape, hc]⟩

theorem readEscape_some {c : UInt8} {r : Reader} {v : UInt8} {r' : Reader} (h : readEscape c r = some (v, r')) :
    ∃ n, r'.rest = r.rest.drop n ∧ r'.pos = r.pos + n := by
  rcases readEscape_cases c r with ⟨a, b, zs, -, hr, -, -, he⟩ | ⟨l, hl⟩
  · rw [he, Option.map_eq_some_iff] at h
    obtain ⟨_, -, h⟩ := h
    cases h
    rw [hr]
    exact ⟨2, rfl, rfl⟩
  · cases hl.symm.trans h; exact ⟨0, rfl, rfl⟩

theorem readEscape_rest_le (ch : UInt8) (r : Reader) (v : UInt8) (r' : Reader)
    (h : readEscape ch r = some (v, r')) : r'.rest.length ≤ r.rest.length := by
  obtain ⟨n, hr, -⟩ := readEscape_some h
  rw [hr, List.length_drop]
  exact Nat.sub_le _ _

/-- the `for` loop of `getNextToken`, entered in state `s` with buffer `buf` -/
def loop (s : St) (buf : Bytes) (r : Reader) : LoopRes :=
  if _h0 : r.read.1 = 0 then
    if s = .start then .done .end_ buf r.read.2
    else unreadBreak s buf r.read.2
  else
    match step s r.read.1 with
    | .next s' w => loop s' (if w then buf ++ [r.read.1] else buf) r.read.2
    | .brk s' w => .done s' (if w then buf ++ [r.read.1] else buf) r.read.2
    | .unreadBrk s' => unreadBreak s' buf r.read.2
    | .escape s' =>
      match he : readEscape r.read.1 r.read.2 with
      | none => .panic convPanic
      | some (v, r') => loop s' (buf ++ writeRune v) r'
    | .regexp => regexpBranch buf r.read.2
termination_by r.rest.length
decreasing_by
  · exact read_rest_lt r _h0
  · exact Nat.lt_of_le_of_lt (readEscape_rest_le _ _ _ _ he) (read_rest_lt r _h0)

theorem loop_cons {s : St} {buf : Bytes} {c : UInt8} {cs : Bytes} {pos : Nat} {last : Option UInt8} (hc : c ≠ 0) :
    loop s buf ⟨c :: cs, pos, last⟩ =
      match step s c with
      | .next s' w => loop s' (if w then buf ++ [c] else buf) ⟨cs, pos + 1, some c⟩
      | .brk s' w => .done s' (if w then buf ++ [c] else buf) ⟨cs, pos + 1, some c⟩
      | .unreadBrk s' => unreadBreak s' buf ⟨cs, pos + 1, some c⟩
      | .escape s' =>
        match readEscape c ⟨cs, pos + 1, some c⟩ with
        | none => .panic convPanic
        | some (v, r') => loop s' (buf ++ writeRune v) r'
      | .regexp => regexpBranch buf ⟨cs, pos + 1, some c⟩ := by
  rw [loop]
  simp only [Reader.read, hc, ↓reduceDIte]
  cases step s c with
  | escape s' =>
    -- not `rfl` at once: the definition's `match he : …` carries the equation for its termination proof
    cases readEscape c ⟨cs, pos + 1, some c⟩ <;> rfl
  | _ => rfl

theorem loop_next {s s' : St} {buf : Bytes} {c : UInt8} {cs : Bytes} {pos : Nat} {last : Option UInt8} (hc : c ≠ 0)
    (h : step s c = .next s' true) : loop s buf ⟨c :: cs, pos, last⟩ = loop s' (buf ++ [c]) ⟨cs, pos + 1, some c⟩ := by
  rw [loop_cons hc, h]; rfl

/-! ## the final switch -/

/-- the keyword `switch`: on `strings.ToLower(lexeme)` (if the extracted code still lower-cases) -/
def kwKey (lexeme : Bytes) : Bytes := if goKeywordsLower then lexeme.map asciiLower else lexeme

def kwLookup (lexeme : Bytes) : Tok := (goKeywords.lookup (kwKey lexeme)).getD .identifier

inductive Final where
  | tok (k : Tok)
  | err (e : ErrKind)
  | panic
deriving Repr, DecidableEq, Inhabited

/-- the final `switch current_state` (from the extracted table; a state without a `case` reaches
`default: panic("Unknown final state")`) -/
def finalAct (s : St) (buf : Bytes) : Final :=
  match goFinal.lookup s with
  | none => .panic
  | some (.tok k) => .tok k
  | some (.err e) => .err e
  | some .keywords => .tok (kwLookup buf)
  | some .operators =>
    match goOperators.lookup buf with
    | some k => .tok k
    | none => .err .unknownToken

/-! ## tokens -/

inductive TokRes where
  | tok (t : Token) (r : Reader)
  | err (e : ErrKind) (startOff endOff : Nat)
  | panic (msg : String)
deriving Repr, DecidableEq, Inhabited

/-- `getNextToken` -/
def getNextToken (r : Reader) : TokRes :=
  match loop .start [] r with
  | .panic m => .panic m
  | .done s buf r' =>
    match finalAct s buf with
    | .panic => .panic finalPanic
    | .tok k => .tok ⟨k, buf, r.pos, r'.pos⟩ r'
    | .err e => .err e r.pos r'.pos

/-- what `getTokens` returns (or a Go panic) -/
inductive LexOutcome where
  | tokens (ts : List Token)
  | lexError (e : ErrKind) (startOff endOff : Nat)
  | panic (msg : String)
deriving Repr, DecidableEq, Inhabited

def LexOutcome.cons (t : Token) : LexOutcome → LexOutcome
  | .tokens ts => .tokens (t :: ts)
  | o => o


/-! ## progress: every token other than EOF consumes input (termination of `getTokens`) -/

/-- un-reading what was just read: the input is as before the `read`, whatever it delivered -/
theorem unreadBreak_read (s : St) (buf : Bytes) (r : Reader) :
    unreadBreak s buf r.read.2 =
      if r.read.2.pos = 0 then .panic popPanic else .done s buf ⟨r.rest, r.read.2.pos - 1, none⟩ := by
  obtain ⟨rest, pos, last⟩ := r
  cases rest with
  | nil => by_cases hp : pos = 0 <;> simp [unreadBreak, Reader.read, Reader.unreadLast, hp]
  | cons c cs => simp [unreadBreak, Reader.read, Reader.unreadLast]

theorem unreadBreak_rest {s : St} {buf : Bytes} {r : Reader} {s' : St} {buf' : Bytes} {r' : Reader}
    (h : unreadBreak s buf r.read.2 = .done s' buf' r') : r'.rest = r.rest := by
  rw [unreadBreak_read] at h
  split at h <;> simp at h
  rw [← h.2.2]

theorem regexpBody_done (buf : Bytes) (pos : Nat) (rest : Bytes) :
    ∃ s' buf' r', regexpBody buf pos rest = .done s' buf' r' ∧ s' ≠ .start ∧ r'.rest.length ≤ rest.length := by
  fun_induction regexpBody buf pos rest with
  | case1 => exact ⟨_, _, _, rfl, nofun, Nat.le_refl _⟩
  | case2 | case3 => exact ⟨_, _, _, rfl, nofun, Nat.le_succ _⟩
  | case4 buf pos c cs _ _ ih =>
    obtain ⟨s', buf', r', h, hs, hle⟩ := ih
    exact ⟨s', buf', r', h, hs, Nat.le_succ_of_le hle⟩

theorem read_rest_le (r : Reader) : r.read.2.rest.length ≤ r.rest.length := by
  obtain ⟨rest, pos, last⟩ := r
  cases rest <;> simp [Reader.read]

theorem regexpBranch_rest_le {buf : Bytes} {r : Reader} {s' : St} {buf' : Bytes} {r' : Reader}
    (h : regexpBranch buf r = .done s' buf' r') : r'.rest.length ≤ r.rest.length := by
  unfold regexpBranch at h
  simp only at h
  split at h
  · rw [unreadBreak_rest h]; exact Nat.le_refl _
  · obtain ⟨_, _, _, h', -, hle⟩ := regexpBody_done buf r.read.2.pos r.read.2.rest
    cases h'.symm.trans h
    exact Nat.le_trans hle (read_rest_le _)

/-- the loop never gives input back, and a loop entered in SSTART that does not end in SEND has consumed at least one
byte: every iteration that goes on has read one, and in SSTART the chain does not un-read -/
theorem loop_rest {s : St} {buf : Bytes} {r : Reader} {s' : St} {buf' : Bytes} {r' : Reader}
    (h : loop s buf r = .done s' buf' r') :
    r'.rest.length ≤ r.rest.length ∧ (s = .start → s' ≠ .end_ → r'.rest.length < r.rest.length) := by
  fun_induction loop s buf r generalizing s' buf' r' with
  | case1 buf r _ =>
    cases h
    exact ⟨read_rest_le r, fun _ hs => absurd rfl hs⟩
  | case2 s buf r _ hs =>
    exact ⟨Nat.le_of_eq (congrArg _ (unreadBreak_rest h)), fun h' => absurd h' hs⟩
  | case3 s buf r h0 a w _ ih =>
    have hlt := Nat.lt_of_le_of_lt (ih h).1 (read_rest_lt r h0)
    exact ⟨Nat.le_of_lt hlt, fun _ _ => hlt⟩
  | case4 s buf r h0 a w _ =>
    cases h
    exact ⟨Nat.le_of_lt (read_rest_lt r h0), fun _ _ => read_rest_lt r h0⟩
  | case5 s buf r _ a hstep =>
    exact ⟨Nat.le_of_eq (congrArg _ (unreadBreak_rest h)), fun hs => absurd (hs ▸ hstep) (step_start_not_unread _ _)⟩
  | case6 => cases h
  | case7 s buf r h0 a _ v r2 he ih =>
    have hlt := Nat.lt_of_le_of_lt (Nat.le_trans (ih h).1 (readEscape_rest_le _ _ _ _ he)) (read_rest_lt r h0)
    exact ⟨Nat.le_of_lt hlt, fun _ _ => hlt⟩
  | case8 s buf r h0 =>
    have hlt := Nat.lt_of_le_of_lt (regexpBranch_rest_le h) (read_rest_lt r h0)
    exact ⟨Nat.le_of_lt hlt, fun _ _ => hlt⟩

/-- (over the regenerated table) the final switch maps SEND to the EOF token — what makes
`getTokens` stop -/
theorem goFinal_end : goFinal.lookup .end_ = some (.tok .eof) := by decide

theorem getNextToken_progress (r : Reader) (t : Token) (r' : Reader)
    (h : getNextToken r = .tok t r') (hk : t.kind ≠ .eof) : r'.rest.length < r.rest.length := by
  unfold getNextToken at h
  cases hl : loop .start [] r with
  | panic m => simp [hl] at h
  | done s buf r2 =>
    cases hf : finalAct s buf with
    | panic => simp [hl, hf] at h
    | err e => simp [hl, hf] at h
    | tok k =>
      simp only [hl, hf] at h
      cases h
      apply (loop_rest hl).2 rfl
      -- the loop did not end in SEND: there the final switch would have given EOF
      intro hs
      have h2 : finalAct .end_ buf = .tok .eof := by unfold finalAct; rw [goFinal_end]
      rw [hs, h2] at hf
      cases hf
      exact hk rfl

/-- `getTokens`: tokens up to and including the first EOF token, or the first error.
Terminates because every token other than EOF consumes input (`getNextToken_progress`). -/
def getTokens (r : Reader) : LexOutcome :=
  match h : getNextToken r with
  | .panic m => .panic m
  | .err e a b => .lexError e a b
  | .tok t r' =>
    if hk : t.kind = .eof then .tokens [t]
    else (getTokens r').cons t
termination_by r.rest.length
decreasing_by exact getNextToken_progress r t r' h hk

/-- the lexer on a source: `initLexer(strings.NewReader(src)).getTokens()` -/
def lex (src : Bytes) : LexOutcome := getTokens (initLexer src)

end Vore.Lex

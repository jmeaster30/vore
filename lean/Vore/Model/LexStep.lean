import Vore.Model.LexTypes
/-!
# Vore.Model.LexStep — one iteration of the lexer's loop (libvore/ast/lexer.go `getNextToken`)

The `if … else if …` chain as a function of (state, character), and what it does state by state (the string states,
which are stated with `Quote`, in Lemmas/LexString.lean).  Proofs use `step` through these equations or evaluate it on
concrete bytes.  Independent of the extracted tables (so its checks are not redone when the tables change).
-/
namespace Vore.Lex
open Vore

/-! ## characters: `unicode.IsSpace`, `IsDigit`, `IsLetter`

On ASCII bytes these are the ASCII ranges.  The bytes `0x81`, `0x82`, `0x83` stand for "some non-ASCII letter / digit /
space" and `0x80` (like every other byte ≥ 0x84) for "some other non-ASCII rune": a source that is not ASCII is lexed
through its class-preserving image `Vore.Unicode.abstractSource` (Vore/Model/Unicode.lean), in which every rune is one
byte. -/

/-- `unicode.IsSpace`: `\t \n \v \f \r`, blank, and the class byte of non-ASCII spaces -/
def isSpace (c : UInt8) : Prop := (9 ≤ c ∧ c ≤ 13) ∨ c = 32 ∨ c = 0x83
instance (c : UInt8) : Decidable (isSpace c) := by unfold isSpace; infer_instance

/-- `unicode.IsDigit`: ASCII digits and the class byte of non-ASCII decimal digits -/
def isDigit (c : UInt8) : Prop := (48 ≤ c ∧ c ≤ 57) ∨ c = 0x82
instance (c : UInt8) : Decidable (isDigit c) := by unfold isDigit; infer_instance

/-- `unicode.IsLetter`: ASCII letters and the class byte of non-ASCII letters -/
def isLetter (c : UInt8) : Prop := (65 ≤ c ∧ c ≤ 90) ∨ (97 ≤ c ∧ c ≤ 122) ∨ c = 0x81
instance (c : UInt8) : Decidable (isLetter c) := by unfold isLetter; infer_instance

/-! ## one iteration of the loop -/

/-- what one branch of the `if … else if …` chain does with the character `ch` just read -/
inductive Act where
  | next (s : St) (w : Bool)      -- stay in the loop in state `s`; `w`: `buf.WriteRune(ch)`
  | brk (s : St) (w : Bool)       -- `current_state = s; break`
  | unreadBrk (s : St)            -- `s.unread_last(); current_state = s; break`
  | escape (s : St)               -- `buf.WriteRune(s.readEscape(ch)); current_state = s`
  | regexp                        -- the `@` branch
deriving Repr, DecidableEq, Inhabited

/-- the chain of `getNextToken`'s loop for `ch ≠ 0`, branch by branch in source order.
(The second `else if current_state == SCOMMENTSTART` near the end of the Go chain is dead code —
an earlier branch has the same condition — and is omitted.) -/
def step (s : St) (ch : UInt8) : Act :=
  if s = .comment then (if ch = 10 then .unreadBrk .comment else .next .comment true)
  else if s = .blockComment then (if ch = 41 then .next .blockCommentStartEnd true else .next .blockComment true)
  else if s = .blockCommentStartEnd ∧ ch = 45 then .next .blockCommentEndEnd true
  else if (s = .blockCommentStartEnd ∨ s = .blockCommentEndEnd) ∧ ch = 41 then .next .blockCommentStartEnd true
  else if s = .blockCommentEndEnd ∧ ch = 45 then .brk .blockCommentFinal true
  else if s = .blockCommentEndEnd ∨ s = .blockCommentStartEnd then .next .blockComment true
  else if s = .stringDEscape then .escape .stringDouble
  else if s = .stringSEscape then .escape .stringSingle
  else if ch = 92 ∧ s = .stringDouble then .next .stringDEscape false
  else if s = .stringDouble then (if ch = 34 then .brk .stringEnd false else .next .stringDouble true)
  else if ch = 92 ∧ s = .stringSingle then .next .stringSEscape false
  else if s = .stringSingle then (if ch = 39 then .brk .stringEnd false else .next .stringSingle true)
  else if ch = 40 ∧ s = .commentStart then .next .blockComment true
  else if s = .commentStart then (if ch = 10 then .unreadBrk .comment else .next .comment true)
  else if ch = 40 ∧ s = .start then .brk .openparen true
  else if ch = 41 ∧ s = .start then .brk .closeparen true
  else if ch = 123 ∧ s = .start then .brk .opencurly true
  else if ch = 125 ∧ s = .start then .brk .closecurly true
  else if ch = 44 ∧ s = .start then .brk .comma true
  else if ch = 33 ∧ s = .start then .next .excl true
  else if ch = 61 ∧ s = .excl then .brk .nequal true
  else if ch = 61 ∧ s = .start then .next .equal1 true
  else if ch = 61 ∧ s = .equal1 then .brk .dequal true
  else if ch = 61 ∧ s = .colon then .brk .coloneq true
  else if ch = 61 ∧ s = .operatorStart then .brk .operator true
  else if ch = 58 ∧ s = .start then .next .colon true
  else if ch = 45 ∧ (s = .start ∨ s = .dash ∨ s = .commentStart) then
    .next (if s = .start then .dash else if s = .dash then .commentStart else .comment) true
  else if s = .start ∧ (ch = 43 ∨ ch = 37 ∨ ch = 42 ∨ ch = 47) then .brk .operator true
  else if s = .start ∧ (ch = 62 ∨ ch = 60) then .next .operatorStart true
  else if isSpace ch then
    (if s = .start ∨ s = .whitespace then .next .whitespace true else .unreadBrk s)
  else if isDigit ch ∧ (s = .number ∨ s = .start) then .next .number true
  else if isLetter ch ∧ s = .start then .next .identifier true
  else if (isDigit ch ∨ isLetter ch) ∧ s = .identifier then .next .identifier true
  else if ch = 34 ∧ s = .start then .next .stringDouble false
  else if ch = 39 ∧ s = .start then .next .stringSingle false
  else if s = .start ∧ ch = 64 then .regexp
  else if s ≠ .start ∨ isDigit ch ∨ isLetter ch ∨ isSpace ch ∨ ch = 40 ∨ ch = 41 ∨ ch = 123 ∨ ch = 125
      ∨ ch = 44 ∨ ch = 58 ∨ ch = 61 ∨ ch = 34 ∨ ch = 39 ∨ ch = 45 ∨ ch = 43 ∨ ch = 60 ∨ ch = 62
      ∨ ch = 42 ∨ ch = 47 ∨ ch = 37 ∨ ch = 64 then .unreadBrk s
  else .brk .error true

/-! ## the character classes are disjoint from each other and from the characters the chain compares with first -/

theorem classes_disjoint (c : UInt8) :
    (isDigit c → ¬ isSpace c) ∧ (isLetter c → ¬ isSpace c) ∧ (isLetter c → ¬ isDigit c) := by
  simp only [isSpace, isDigit, isLetter, UInt8.le_iff_toNat_le, ← UInt8.toNat_inj, UInt8.toNat_ofNat]
  omega

/-- NUL and the characters that the chain tests for in SSTART before it asks for the class -/
def startTested : List UInt8 := [0, 40, 41, 123, 125, 44, 33, 61, 58, 45, 43, 37, 42, 47, 62, 60]

theorem class_not_special {c : UInt8} (h : isSpace c ∨ isDigit c ∨ isLetter c) : c ∉ startTested := by
  have : ∀ k ∈ startTested, ¬ (isSpace k ∨ isDigit k ∨ isLetter k) := by decide
  exact fun hm => this c hm h

theorem class_ne_zero {c : UInt8} (h : isSpace c ∨ isDigit c ∨ isLetter c) : c ≠ 0 :=
  fun h0 => class_not_special h (h0 ▸ by decide)

theorem isLetter_lower : ∀ c : UInt8, isLetter (asciiLower c) ↔ isLetter c := by
  intro c
  simp only [asciiLower, Bool.and_eq_true, decide_eq_true_eq]
  split
  · simp only [isLetter, UInt8.le_iff_toNat_le, ← UInt8.toNat_inj, UInt8.toNat_ofNat, UInt8.toNat_add, Nat.reducePow,
      Nat.reduceMod] at *
    omega
  · rfl

theorem isDigit_lower : ∀ c : UInt8, isDigit (asciiLower c) ↔ isDigit c := by
  intro c
  simp only [asciiLower, Bool.and_eq_true, decide_eq_true_eq]
  split
  · simp only [isDigit, UInt8.le_iff_toNat_le, ← UInt8.toNat_inj, UInt8.toNat_ofNat, UInt8.toNat_add, Nat.reducePow,
      Nat.reduceMod] at *
    omega
  · rfl

/-! ## the chain, state by state

In a given state most conditions of the chain are decided, and what is left is a short chain in the character alone. -/

/-- In SSTART the chain's last test (`current_state != SSTART || IsDigit(ch) || … || ch == '@'`, then `unread_last()`) never
succeeds: every character it lists is taken by an earlier branch. -/
theorem step_start (c : UInt8) : step .start c =
    if c = 40 then .brk .openparen true
    else if c = 41 then .brk .closeparen true
    else if c = 123 then .brk .opencurly true
    else if c = 125 then .brk .closecurly true
    else if c = 44 then .brk .comma true
    else if c = 33 then .next .excl true
    else if c = 61 then .next .equal1 true
    else if c = 58 then .next .colon true
    else if c = 45 then .next .dash true
    else if c = 43 ∨ c = 37 ∨ c = 42 ∨ c = 47 then .brk .operator true
    else if c = 62 ∨ c = 60 then .next .operatorStart true
    else if isSpace c then .next .whitespace true
    else if isDigit c then .next .number true
    else if isLetter c then .next .identifier true
    else if c = 34 then .next .stringDouble false
    else if c = 39 then .next .stringSingle false
    else if c = 64 then .regexp
    else .brk .error true := by
  simp [step]
  -- both sides are the same chain down to the last `else`; there the negated conditions refute the last test
  repeat (refine ite_congr rfl (fun _ => rfl) (fun _ => ?_))
  simp_all

theorem step_start_space {c : UInt8} (h : isSpace c) : step .start c = .next .whitespace true := by
  have hc := class_not_special (.inl h)
  simp only [startTested, List.mem_cons, List.not_mem_nil, or_false, not_or] at hc
  simp [step_start, hc, h]

theorem step_start_digit {c : UInt8} (h : isDigit c) : step .start c = .next .number true := by
  have hc := class_not_special (.inr (.inl h))
  simp only [startTested, List.mem_cons, List.not_mem_nil, or_false, not_or] at hc
  simp [step_start, hc, (classes_disjoint c).1 h, h]

theorem step_start_letter {c : UInt8} (h : isLetter c) : step .start c = .next .identifier true := by
  have hc := class_not_special (.inr (.inr h))
  simp only [startTested, List.mem_cons, List.not_mem_nil, or_false, not_or] at hc
  simp [step_start, hc, (classes_disjoint c).2.1 h, (classes_disjoint c).2.2 h, h]

theorem step_whitespace (c : UInt8) :
    step .whitespace c = if isSpace c then .next .whitespace true else .unreadBrk .whitespace := by
  simp [step]

theorem step_number (c : UInt8) : step .number c = if isDigit c then .next .number true else .unreadBrk .number := by
  have : isSpace c → ¬ isDigit c := fun hs hd => (classes_disjoint c).1 hd hs
  simpa [step] using this

theorem step_identifier (c : UInt8) :
    step .identifier c = if isDigit c ∨ isLetter c then .next .identifier true else .unreadBrk .identifier := by
  have : isSpace c → ¬ isDigit c ∧ ¬ isLetter c :=
    fun hs => ⟨fun hd => (classes_disjoint c).1 hd hs, fun hl => (classes_disjoint c).2.1 hl hs⟩
  simpa [step] using this

theorem step_equal1 (c : UInt8) : step .equal1 c = if c = 61 then .brk .dequal true else .unreadBrk .equal1 := by
  simp [step]

theorem step_excl (c : UInt8) : step .excl c = if c = 61 then .brk .nequal true else .unreadBrk .excl := by
  simp [step]

theorem step_colon (c : UInt8) : step .colon c = if c = 61 then .brk .coloneq true else .unreadBrk .colon := by
  simp [step]

theorem step_operatorStart (c : UInt8) :
    step .operatorStart c = if c = 61 then .brk .operator true else .unreadBrk .operatorStart := by
  simp [step]

theorem step_dash (c : UInt8) : step .dash c = if c = 45 then .next .commentStart true else .unreadBrk .dash := by
  simp [step]

theorem step_commentStart (c : UInt8) : step .commentStart c =
    if c = 40 then .next .blockComment true else if c = 10 then .unreadBrk .comment else .next .comment true := by
  simp [step]

theorem step_comment (c : UInt8) : step .comment c = if c = 10 then .unreadBrk .comment else .next .comment true := by
  simp [step]

theorem step_blockComment (c : UInt8) :
    step .blockComment c = if c = 41 then .next .blockCommentStartEnd true else .next .blockComment true := by
  simp [step]

theorem step_blockCommentStartEnd (c : UInt8) : step .blockCommentStartEnd c =
    if c = 45 then .next .blockCommentEndEnd true else if c = 41 then .next .blockCommentStartEnd true
    else .next .blockComment true := by
  simp [step]

theorem step_blockCommentEndEnd (c : UInt8) : step .blockCommentEndEnd c =
    if c = 41 then .next .blockCommentStartEnd true else if c = 45 then .brk .blockCommentFinal true
    else .next .blockComment true := by
  simp [step]

/-! ## where the chain can lead: no branch goes (back) to SSTART, and SSTART never un-reads

Both are what the termination proof of the model and the proof that it never panics need of the chain. -/

theorem ite_ne {α : Sort _} {p : Prop} [Decidable p] {a b x : α} (ha : a ≠ x) (hb : b ≠ x) :
    (if p then a else b) ≠ x := by
  split <;> assumption

theorem step_start_not_unread (c : UInt8) (s' : St) : step .start c ≠ .unreadBrk s' := by
  rw [step_start]
  repeat' apply ite_ne
  all_goals nofun

theorem step_brk_ne_start {s : St} {c : UInt8} {s' : St} {w : Bool} (h : step s c = .brk s' w) : s' ≠ .start := by
  rintro rfl
  revert h
  unfold step
  repeat' apply ite_ne
  all_goals nofun

/-- where the chain un-reads it stays in its state (or, from SCOMMENTSTART, goes to SCOMMENT) -/
theorem step_unread_ne_start {s : St} {c : UInt8} {s' : St} (h : step s c = .unreadBrk s') : s' ≠ .start := by
  rintro rfl
  by_cases hs : s = .start
  · exact step_start_not_unread c _ (hs ▸ h)
  · revert h
    unfold step
    repeat' apply ite_ne
    all_goals simp [hs]

def St.all : List St := [.start, .whitespace, .stringDouble, .stringSingle, .stringEnd, .stringDEscape,
    .stringSEscape, .number, .equal1, .dequal, .excl, .nequal, .colon, .coloneq, .identifier, .comma, .openparen,
    .closeparen, .opencurly, .closecurly, .comment, .commentStart, .blockComment, .blockCommentStartEnd,
    .blockCommentEndEnd, .blockCommentFinal, .dash, .operator, .operatorStart, .regexp, .regexpUnending, .error,
    .end_]

theorem St.mem_all (s : St) : s ∈ St.all := by cases s <;> decide

end Vore.Lex

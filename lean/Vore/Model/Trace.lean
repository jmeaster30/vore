import Vore.Model.VM
/-!
# Vore.Model.Trace — the VM model with an observer (correspondence level L5)

`runT` / `scanT` / `findMatchesT` are `run` / `scan` / `findMatches` threading a 64-bit fingerprint of the
sequence of observations `(pc, file offset, backtrack depth, loop depth, call depth)` — exactly what the
hook `engine.VerifStepHook` reports once per executed instruction of the real VM loop.  The theorems
below say the observer changes nothing: the result component is the proved function.  The compiled driver
prints the fingerprint, the Go harness computes the same fold over the real engine's steps, and the check
compares them: the model is then tied to the code *step by step*, not only through its final answers.
-/
namespace Vore

/-- step count and rolling fingerprint of the observations so far -/
structure Tr where
  n : Nat := 0
  h : UInt64 := 1469598103934665603
deriving Inhabited, Repr

def Tr.mix (t : Tr) (x : Nat) : Tr := { t with h := (t.h ^^^ x.toUInt64) * 1099511628211 }

/-- one observation: what `verifStep` passes to the hook -/
def Tr.obs (t : Tr) (s : VMState) : Tr :=
  let t := ((((t.mix s.core.pc).mix s.core.pos).mix s.bt.length).mix s.core.loops.length).mix s.core.calls.length
  { t with n := t.n + 1 }

def runT (pf : Nat) (prog : List Instr) (text : Bytes) : Nat → VMState → Tr → Option Outcome × Tr
  | 0, _, t => (none, t)
  | n + 1, s, t =>
    if s.core.pc ≥ prog.length then (some (.success s.core), t) else
    match step pf prog text s with
    | .done o => (some o, t.obs s)
    | .cont s' => runT pf prog text n s' (t.obs s)

theorem runT_fst (pf : Nat) (prog : List Instr) (text : Bytes) :
    ∀ n s t, (runT pf prog text n s t).1 = run pf prog text n s := by
  intro n
  induction n with
  | zero => intro s t; rfl
  | succ n ih =>
    intro s t
    rw [runT, run, apply_ite Prod.fst]
    cases step pf prog text s with
    | done o => rfl
    | cont s' => rw [ih]

def scanT (pf vf : Nat) (prog : List Instr) (amt : Amount) (text : Bytes) :
    Nat → (acc : List Match) → (matchNumber pos line col : Nat) → Tr → Option (Res (List Match)) × Tr
  | 0, _, _, _, _, _, t => (none, t)
  | f + 1, acc, mn, pos, line, col, t =>
    if !(amt.all || mn < amt.skip + amt.take) then (some (.ok acc), t) else
    let r := runT pf prog text vf (initState pos line col) t
    match classify r.1 with
    | .diverge => (none, r.2)
    | .panic tag => (some (.panic tag), r.2)
    | .pfuel => (some .pfuel, r.2)
    | .hit c =>
      let acc' := if mn ≥ amt.skip then limitLast amt.last (acc ++ [makeMatch (mn + 1) pos line col c]) else acc
      if c.pos ≥ text.length then (some (.ok acc'), r.2)
      else scanT pf vf prog amt text f acc' (mn + 1) c.pos c.line c.col r.2
    | .miss =>
      match readAt text pos 1 with
      | [b] =>
        if pos + 1 ≥ text.length then (some (.ok acc), r.2)
        else scanT pf vf prog amt text f acc mn (pos + 1)
          (if b = nl then (line + 1, 1) else (line, col + 1)).1 (if b = nl then (line + 1, 1) else (line, col + 1)).2 r.2
      | _ => (some (.panic "WOW THAT IS NOT GOOD :("), r.2)

theorem scanT_fst {pf vf : Nat} {prog : List Instr} {amt : Amount} {text : Bytes} :
    ∀ {f acc mn pos line col t}, (scanT pf vf prog amt text f acc mn pos line col t).1 =
      scan pf vf prog amt text f acc mn pos line col := by
  intro f
  induction f with
  | zero => intro acc mn pos line col t; rfl
  | succ f ih =>
    intro acc mn pos line col t
    -- the projection goes inside the `if`s; then the two bodies are the same `match`es up to the recursive calls
    simp only [scanT, scan, runT_fst, apply_ite Prod.fst]
    generalize classify (run pf prog text vf (initState pos line col)) = a
    generalize readAt text pos 1 = r
    congr 1
    cases a with
    | hit c => simp only [apply_ite Prod.fst, ih]
    | miss =>
      rcases r with _ | ⟨b, _ | _⟩
      · rfl
      · simp only [apply_ite Prod.fst, ih]
      · rfl
    | _ => rfl

def findMatchesT (pf vf : Nat) (prog : List Instr) (amt : Amount) (text : Bytes) (t0 : Tr) :
    Option (Res (List Match)) × Tr :=
  if text.length = 0 then (some (.ok []), t0) else
  if prog.length = 0 then (some (.ok []), t0) else
  scanT pf vf prog amt text (text.length + 1) [] 0 0 1 1 t0

theorem findMatchesT_fst (pf vf : Nat) (prog : List Instr) (amt : Amount) (text : Bytes) (t0 : Tr) :
    (findMatchesT pf vf prog amt text t0).1 = findMatches pf vf prog amt text := by
  simp only [findMatchesT, findMatches, apply_ite Prod.fst, scanT_fst]

end Vore

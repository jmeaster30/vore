import Vore.Props.C01
import Vore.Props.C10
import Vore.Props.C12
/-!
# C09 — Running an accepted program never crashes, whatever the input

In the model every Go panic site is an outcome (`Outcome.panic`, `Res.panic`): an instruction fetch
past the end, `ENDVAR`/`RETURN` on an empty stack, the name check of `ENDVAR`, an
empty `Branch`, the scan's one-byte read, a divide by zero or an undefined operator in process code.
"Never crashes" is therefore the theorem that these outcomes are unreachable.

Proved: for every find command of the call-free fragment, on every input (including the empty
input, end of input inside any construct, empty captures) `findMatches` never returns `.panic`
(`C09_no_panic_callfree`; that it returns `.ok` is `C01_refines_partial`, used in the proof); the same with subroutines, recursion and global patterns whenever the
program has no unguarded recursion and its predicates evaluate (`C09_no_panic_guarded`, through C10); the
empty input and the empty body return `[]` for every program whatsoever (`C09_empty_input`, `C09_empty_body`).
Replace commands: producing the replacements cannot panic when the `with` list names no transform
(`C09_replacements_never_panic`, `C09_replace_command_no_panic`); with transforms that the checker accepts and that
keep each variable at one type (C12's hypothesis) it can panic only by Go's integer division by zero, the
recorded finding (`C09_replacements_panic_only_div_zero`).
PARTIAL: a predicate of `set … to pattern` that panics or runs out of fuel is outside (`predsOK` is a hypothesis),
and so is unguarded recursion.  The correspondence run drives the whole pipeline, files included.
-/
namespace Vore
open Vore.Spec

theorem C09_no_panic_callfree (text : Bytes) (e : Expr) (hcf : CallFree e) (nid : Nat) (hne : codeLen e ≠ 0)
    (pf : Nat) (amt : Amount) :
    ∃ vf0, ∀ vf, vf0 ≤ vf → ∀ t, findMatches pf vf (genCF e 0 nid).1 amt text ≠ some (.panic t) := by
  obtain ⟨A, _, h⟩ := C01_refines_partial text e hcf nid hne
  obtain ⟨vf0, hv⟩ := h pf
  refine ⟨vf0, fun vf hle t => ?_⟩
  rw [hv vf hle amt]
  simp

/-- with subroutines, recursion and global patterns (stage 2): whenever the specification answers, the VM
returns `.ok`; in particular for every program without unguarded recursion whose predicates evaluate
(C10_terminates_guarded_source) there is no panic on any input, under any amount clause -/
theorem C09_no_panic_guarded (G : GEnv) (e : Expr) (r : RExpr) (hr : resolveBody G e = some r)
    (hGw : WfG G) (he : WfE e) (hne : lenR r ≠ 0)
    (pf : Nat) (rk : Nat → Nat) (R : Nat)
    (hG : GuardedP pf (procsOf r) rk R) (hpe : predsOK pf r) (hok : okCalls (procsOf r) rk false R r = true)
    (text : Bytes) (nid : Nat) (amt : Amount) :
    ∃ vf0, ∀ vf, vf0 ≤ vf → ∀ t, findMatches pf vf (genBody r nid).1 amt text ≠ some (.panic t) := by
  obtain ⟨A, vf0, hv⟩ := C10_terminates_guarded_source G e r hr hGw he hne pf rk R hG hpe hok text nid
  refine ⟨vf0, fun vf hle t => ?_⟩
  rw [hv vf hle amt]
  simp

def noProc : List RInstr → Bool
  | [] => true
  | .proc _ :: _ => false
  | _ :: rest => noProc rest

/-- a name contributes a string value or nothing: it never fails -/
theorem replItem_var_ok (pf : Nat) (vars : VMap) (m : Match) (x : String) : ∃ r, replItem pf vars m (.var x) = .ok r := by
  simp only [replItem]
  split <;> exact ⟨_, rfl⟩

/-- a replacer without transform items never fails: literal strings contribute themselves, names a string
value or nothing — whatever the match and its variables -/
theorem runReplacer_noProc (pf : Nat) (vars : VMap) (m : Match) :
    ∀ (rep : List RInstr) (acc : Option Bytes), noProc rep = true → ∃ r, runReplacer pf vars m rep acc = .ok r := by
  intro rep
  induction rep with
  | nil => intro acc _; exact ⟨acc, rfl⟩
  | cons i rest ih =>
    intro acc h
    cases i with
    | str s => simp only [noProc] at h; simp only [runReplacer, replItem]; exact ih _ h
    | var x =>
      simp only [noProc] at h
      obtain ⟨r, hr⟩ := replItem_var_ok pf vars m x
      simp only [runReplacer, hr]
      cases r <;> exact ih _ h
    | proc b => simp [noProc] at h

/-- **replace commands**: if the `with` list names no transform, producing the replacements cannot panic,
for any list of matches: together with `C09_no_panic_callfree` / `C09_no_panic_guarded` a replace command fails
only where its search fails; process code (transforms) is C12's subject -/
theorem C09_replacements_never_panic (pf : Nat) (fn : Bytes) (rep : List RInstr) (h : noProc rep = true) (total : Nat) :
    ∀ ms : List Match, ∃ out, replaceAll pf fn rep total ms = .ok out := by
  intro ms
  induction ms with
  | nil => exact ⟨[], rfl⟩
  | cons m rest ih =>
    obtain ⟨r, hr⟩ := runReplacer_noProc pf (replacerVars m total fn) m rep none h
    obtain ⟨out, ho⟩ := ih
    exact ⟨{ m with replacement := r } :: out, by simp only [replaceAll, hr, ho]⟩

/-- every transform of the replacer is accepted by the checker and keeps each variable at one type -/
def procsSound : List RInstr → Prop
  | [] => True
  | .proc body :: rest =>
    (Spec.Typing.SingleTyped Spec.Typing.initEnv body ∧ checkBody .transformation body = true) ∧ procsSound rest
  | _ :: rest => procsSound rest

/-! ### the environment a transform runs in satisfies the checker's assumptions

`executeReplaceProcess` builds the environment of a transform from the string-valued variables of the
match plus `match` (string), `matchLength` and `matchNumber` (numbers): no boolean anywhere, `matchLength` a
number — exactly `Agrees … initEnv`, the hypothesis of `C12_sound_runProcess`.  So an accepted transform in
which every variable keeps one type can make a replace command fail only by dividing by zero. -/

section
open Vore.Tables Vore.Spec.Typing

-- `VMap` is mutually inductive with `Val`: recursion by pattern matching (`induction` does not apply)
theorem toPEnv_str : ∀ (vars : VMap) (kv : String × PVal), kv ∈ vars.toPEnv → kv.2.type = .string
  | .nil, _, h => nomatch h
  | .cons k (.str s) rest, kv, h => by
    rcases List.mem_cons.mp h with rfl | h
    · rfl
    · exact toPEnv_str rest kv h
  | .cons _ (.map _) rest, kv, h => toPEnv_str rest kv h

theorem transformEnv_agrees (vars : VMap) (m : Match) : Agrees (transformEnv vars m) initEnv := by
  refine C12_agrees_of_no_bool _ (by simp [transformEnv, lookup_put, PVal.type])
    (lookup_of_forall (P := (·.type ≠ .boolean)) nofun fun kv h => ?_)
  rcases PEnv.mem_put h with rfl | h
  · nofun
  rcases PEnv.mem_put h with rfl | h
  · nofun
  rcases PEnv.mem_put h with rfl | h
  · nofun
  rw [toPEnv_str vars kv h]; nofun

theorem replItem_proc_sound (pf : Nat) (vars : VMap) (m : Match) (body : Stmt)
    (hsingle : SingleTyped initEnv body) (haccept : checkBody .transformation body = true) (t : String)
    (h : replItem pf vars m (.proc body) = .panic t) : t = divZeroTag := by
  refine C12_sound_runProcess .transformation body hsingle haccept pf _ (transformEnv_agrees vars m) t ?_
  simp only [replItem] at h
  split at h
  · next hr => cases h; exact hr
  · cases h
  · cases h

end

theorem runReplacer_panic_only_div_zero (pf : Nat) (vars : VMap) (m : Match) :
    ∀ (rep : List RInstr) (acc : Option Bytes) (t : String), procsSound rep →
      runReplacer pf vars m rep acc = .panic t → t = "integer divide by zero" := by
  intro rep
  induction rep with
  | nil => intro acc t _ h; simp [runReplacer] at h
  | cons i rest ih =>
    intro acc t hs h
    cases i with
    | str s => simp only [runReplacer, replItem] at h; exact ih _ t hs h
    | var x =>
      obtain ⟨r, hr⟩ := replItem_var_ok pf vars m x
      simp only [runReplacer, hr] at h
      cases r <;> exact ih _ t hs h
    | proc body =>
      simp only [runReplacer] at h
      -- the four outcomes of the transform, in the order of `runReplacer`'s `match`
      split at h
      · exact ih _ t hs.2 h                    -- text: go on
      · exact ih _ t hs.2 h                    -- nothing: go on
      · next hi => cases h; exact replItem_proc_sound pf vars m body hs.1.1 hs.1.2 t hi    -- a panic: C12
      · cases h                                -- out of fuel is no panic

/-- **replace commands with transforms**: when every transform named in the `with` list is accepted by the
checker and keeps each variable at one type (C12's hypothesis), producing the replacements can panic in one way
only — Go's integer division by zero, the recorded finding — whatever the matches and their variables -/
theorem C09_replacements_panic_only_div_zero (pf : Nat) (fn : Bytes) (rep : List RInstr) (hs : procsSound rep)
    (total : Nat) : ∀ (ms : List Match) (t : String), replaceAll pf fn rep total ms = .panic t →
      t = "integer divide by zero" := by
  intro ms
  induction ms with
  | nil => intro t h; simp [replaceAll] at h
  | cons m rest ih =>
    intro t h
    simp only [replaceAll] at h
    -- in the order of `replaceAll`'s `match`: this match replaced (then the rest), its replacer panicked, out of fuel
    split at h
    · split at h
      · cases h
      · next hrest => cases h; exact ih t hrest
      · cases h
    · next hr => cases h; exact runReplacer_panic_only_div_zero pf _ m rep none t hs hr
    · cases h

/-- a whole call-free replace command without transforms returns `.ok` on every input -/
theorem C09_replace_command_no_panic (text : Bytes) (e : Expr) (hcf : CallFree e) (nid : Nat) (hne : codeLen e ≠ 0)
    (pf : Nat) (amt : Amount) (rep : List RInstr) (h : noProc rep = true) (fn : Bytes) :
    ∃ vf0, ∀ vf, vf0 ≤ vf → ∃ out, runCmd pf vf fn text (.replace amt (genCF e 0 nid).1 rep) = some (.ok out) := by
  obtain ⟨A, _, hA⟩ := C01_refines_partial text e hcf nid hne
  obtain ⟨vf0, hv⟩ := hA pf
  refine ⟨vf0, fun vf hle => ?_⟩
  obtain ⟨out, ho⟩ := C09_replacements_never_panic pf fn rep h (window amt A).length (window amt A)
  exact ⟨out, by simp only [runCmd, hv vf hle amt, ho]⟩

/-- the empty input: no match, no crash, for any instruction list -/
theorem C09_empty_input (pf vf : Nat) (prog : List Instr) (amt : Amount) :
    findMatches pf vf prog amt [] = some (.ok []) := by
  simp [findMatches]

/-- the empty body (`find all ()`): no match, no crash, on any input -/
theorem C09_empty_body (pf vf : Nat) (amt : Amount) (text : Bytes) :
    findMatches pf vf [] amt text = some (.ok []) := by
  rw [findMatches_eq, if_pos (.inr rfl)]

/-- a back-reference to an empty capture at end of input succeeds without reading -/
theorem C09_empty_backref_at_eof (text : Bytes) (x : String) (d : Data) (h : d.env.get x = some (.str [])) :
    backrefD text x d = some d :=
  backrefD_eq_some.mpr ⟨[], h, .inl ⟨rfl, rfl⟩⟩

#print axioms C09_no_panic_callfree
#print axioms C09_no_panic_guarded
#print axioms C09_replacements_never_panic
#print axioms C09_replace_command_no_panic
#print axioms C09_replacements_panic_only_div_zero
#print axioms C09_empty_input
#print axioms C09_empty_body
#print axioms C09_empty_backref_at_eof

end Vore

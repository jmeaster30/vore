import Vore.Lemmas.DocEval
import Vore.Lemmas.Pratt
/-!
# C11 — Process expressions evaluate as the documented operator table says

Evaluation:
* `Vore/Spec/DocOps.lean` is the documented operator table (33 rows) and coercion table,
  transcribed cell by cell, with the documented value `DocOps.eval ρ e` of an expression.
* `evalExpr` (`Vore/Model/Process.lean`) is the model of `executeExpression`; its binary and
  unary cases are tied to /repo's current source by the regenerated `goEval`
  (`C11_evaluator_is_table`: `evalBin = evalFromTable goEval`, `evalUn = unFromTable goEval`,
  hence `evalExpr = evalExprWith goEval`; re-checked whenever `Vore/Extracted.lean` changes).
* `C11_cells`: every documented cell of the regenerated table computes the documented value,
  for ALL operand values (finite case analysis over operator × operand types).
* `C11_eval`: for every well-typed expression and every environment of the assumed types the
  evaluator returns the documented value (structural induction).  A zero divisor is the
  separate documented outcome `divByZero` ↔ Go's "integer divide by zero" panic.

Precedence:
* `Vore/Model/Pratt.lean` transcribes `parse_expr_pratt`; `Vore/Spec/Grammar.lean` is the
  documented stratified grammar (`* / %` > `+ -` > `< > <= >=` > `== !=` > `and or`, left
  associative, prefix operators tightest) with its two printers.
* `C11_prec_tables`: the regenerated `isPrefixOp`/`prefixPrecedence`/`isBinaryOp`/
  `infixPrecedence`/`isProcessExprEnd` implement those strata (evaluation).
* `C11_pratt`: for every expression tree, parsing its fully parenthesised rendering and parsing
  its minimally parenthesised rendering both return the tree (induction on the rendering,
  `Renders` in `Lemmas/Pratt.lean`, with the binding-power invariant), also through
  `parse_process_expression` in front of any expression-ending token (`then`, `end`, `set`, …
  and end of input).

Integer arithmetic is modelled on `Int`; Go's wrap-around beyond 2^63 is outside the model
(trusted base).
-/
namespace Vore
open Vore.Tables Vore.Extracted Vore.Spec Vore.Spec.Typing Vore.Spec.Grammar Vore.Pratt

/-- the model's evaluator is the regenerated Go dispatch table -/
theorem C11_evaluator_is_table :
    (∀ op l r, evalBin op l r = evalFromTable goEval op l r)
    ∧ (∀ op v, unFromTable goEval op v = .val (evalUn op v))
    ∧ (∀ ρ e, evalExpr ρ e = evalExprWith goEval ρ e)
    ∧ elsePanicsOK goEval = true :=
  ⟨evalBin_eq_table, evalUn_eq_table, evalExpr_eq_table, goEval_else_panics⟩

/-- every documented cell (operator, operand types) of the regenerated table computes the
documented value, whatever the operand values; the result has the documented type -/
theorem C11_cells (op : Op) (l r : PVal) (t : PT) (h : DocOps.binType l.type r.type op = some t) :
    (DocOps.evalBin op l r).toEvalRes = some (evalFromTable goEval op l r)
    ∧ ∀ v, DocOps.evalBin op l r = .val v → v.type = t := by
  rw [← evalBin_eq_table]
  exact evalBin_cells_documented op l r t h

theorem C11_cells_unary (op : Op) (v : PVal) (t : PT) (h : DocOps.unType v.type op = some t) :
    (DocOps.evalUn op v).toEvalRes = some (unFromTable goEval op v) ∧ (evalUn op v).type = t := by
  obtain ⟨h1, h2⟩ := evalUn_documented op v t h
  rw [h1, evalUn_eq_table]
  exact ⟨rfl, h2⟩

/-- for every well-typed expression and every environment whose variables have the assumed
types, the evaluator computes the documented value -/
theorem C11_eval (Γ : Env) (ρ : PEnv) (e : PExpr) (t : PT)
    (hty : HasType Γ e t) (hρ : Models ρ Γ) :
    (DocOps.eval ρ e).toEvalRes = some (evalExpr ρ e) :=
  (evalExpr_documented hρ hty).1

/-- the same for the table-driven evaluator, plus type preservation -/
theorem C11_eval_table (Γ : Env) (ρ : PEnv) (e : PExpr) (t : PT)
    (hty : HasType Γ e t) (hρ : Models ρ Γ) :
    (DocOps.eval ρ e).toEvalRes = some (evalExprWith goEval ρ e)
    ∧ ∀ v, DocOps.eval ρ e = .val v → v.type = t := by
  rw [← evalExpr_eq_table]
  exact evalExpr_documented hρ hty

/-- the regenerated precedence tables implement the documented strata, and no token of a
rendering ends an expression -/
theorem C11_prec_tables : PrecOK goPrec = true ∧ ExprEndOK goPrec = true := by
  constructor <;> decide +kernel

/-- the Pratt parser reads back both renderings of every expression tree -/
theorem C11_pratt (t : PExpr) (hwf : WF t) :
    parseTokens goPrec (renderFull t) = .ok t []
    ∧ parseTokens goPrec (renderMin 1 t) = .ok t [] :=
  ⟨parseTokens_renderFull C11_prec_tables.1 t hwf, parseTokens_renderMin C11_prec_tables.1 t hwf⟩

/-- … and so does `parse_process_expression` when the rendering is followed by a token that
ends an expression (`then`, `end`, `set`, …): it returns the tree and stops in front of it -/
theorem C11_pratt_in_statement (t : PExpr) (hwf : WF t) (e : PTok) (he : isExprEnd goPrec e = true)
    (rest : List PTok) :
    parseProcessExpression goPrec (renderFull t ++ e :: rest) = .ok t (e :: rest)
    ∧ parseProcessExpression goPrec (renderMin 1 t ++ e :: rest) = .ok t (e :: rest) :=
  ⟨parseProcessExpression_ok C11_prec_tables.2 he rest (renderFull_renders t hwf 1).ok (C11_pratt t hwf).1,
   parseProcessExpression_ok C11_prec_tables.2 he rest (renderMin_renders t hwf 1).ok (C11_pratt t hwf).2⟩

/-- `'7' * n + (match == 'ab')`-style: a well-typed expression over an environment of the
assumed types; the documented value is a value -/
example : HasType initEnv (.bin .plus (.bin .mult (.str [55]) (.var "matchLength")) (.bool true)) .number :=
  .bin (.bin (.str _) (.var _) (by simp [initEnv]; rfl)) (.bool _) rfl

example : Models [("matchLength", .num 3)] initEnv := by
  intro x
  unfold lookup PEnv.get initEnv
  by_cases h : x = "matchLength"
  · subst h; simp [List.find?, PVal.type]
  · have e : ("matchLength" == x) = false := by simp [Ne.symm h]
    simp [List.find?, e, h, PVal.type]

example : DocOps.eval [("matchLength", .num 3)]
      (.bin .plus (.bin .mult (.str [55]) (.var "matchLength")) (.bool true)) = .val (.num 22) := rfl

/-- a documented cell with a hypothesis that holds: `string - number` -/
example : DocOps.binType (PVal.str [49, 50]).type (PVal.num 5).type .minus = some .number := rfl

/-- a well-formed tree that needs parentheses in both positions:
`(1 + 2) * (3 - (4 - 5)) and not (a or b)` -/
def exampleTree : PExpr :=
  .bin .and
    (.bin .mult (.bin .plus (.num 1) (.num 2)) (.bin .minus (.num 3) (.bin .minus (.num 4) (.num 5))))
    (.un .not (.bin .or (.var "a") (.var "b")))

example : WF exampleTree := by simp [exampleTree, WF, binaryOps, prefixOps]

example : renderMin 1 exampleTree =
    [.lparen, .num 1, .op .plus, .num 2, .rparen, .op .mult, .lparen, .num 3, .op .minus, .lparen, .num 4,
     .op .minus, .num 5, .rparen, .rparen, .op .and, .op .not, .lparen, .ident "a", .op .or, .ident "b", .rparen] := by
  decide

example : isExprEnd goPrec (.op (.other "THEN")) = true := by decide

end Vore

#print axioms Vore.C11_evaluator_is_table
#print axioms Vore.C11_cells
#print axioms Vore.C11_cells_unary
#print axioms Vore.C11_eval
#print axioms Vore.C11_eval_table
#print axioms Vore.C11_prec_tables
#print axioms Vore.C11_pratt
#print axioms Vore.C11_pratt_in_statement

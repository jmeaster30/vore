import Vore.Lemmas.Cli
/-!
# C18 — The CLI delivers the library's results under every documented flag combination

`Cli.run` (Vore/Model/Cli.lean) transcribes `main()`'s decision sequence; `Cli.spec`
(Vore/Spec/CliDoc.lean) is the documented behaviour.  `C18_spec_all` is for every flag vector, every
scenario and every acceptable reading of main.go; the theorems after it read off its parts for main.go
as it is (`goEnv`), `C18_json_is_library_result` for arbitrary library results (`runData`); how the
finite space is covered is said in `Vore/Lemmas/Cli.lean`.  The reading of main.go comes from
`Vore/CliExtracted.lean`, regenerated from the current source on every check: `C18_main_go_facts`
fails when the `-replace-mode` table, its default, its usage text, or the `OpenFile` flags stop
being the documented ones.

Trusted, only exercised by the exhaustive run of the built binary: `flag` parsing
(`flag.Func` error ⇒ exit 2), `log.Fatal` ⇒ exit 1, `os.Exit`, `os.OpenFile`/`Truncate`/
`WriteString`, and that the library calls return (C09) what C17 says.
-/
namespace Vore.Cli
open Vore.CliExtracted

/-- main.go, as extracted now, is one of the documented readings: `-replace-mode` maps
NEW/NOTHING/OVERWRITE to the engine's modes, rejects anything else, defaults to NEW (and
says so in its usage text); `OpenFile` creates the file and opens it for writing, and the old
content is discarded (`O_TRUNC` or `Truncate`). -/
theorem C18_main_go_facts : goEnv ∈ docEnvs ∧ goModeUsageDefault = "NEW" := by decide

theorem C18_spec_evaluated : allSeen (fun fl sc => spec fl sc (run (docEnv true true) fl sc).view) = true := by
  decide +kernel

/-- The whole property — every claim of `spec` — for every acceptable reading of main.go, every
flag vector and every scenario. -/
theorem C18_spec_all (e : Env) (he : e ∈ docEnvs) (fl : Flags) (sc : Scenario) :
    spec fl sc (run e fl sc).view = true := by
  obtain ⟨a, b, rfl, hab⟩ := mem_docEnvs e he
  rw [run_docEnv a b hab, spec_seen]
  exact allSeen_seen C18_spec_evaluated fl sc

/-- The whole property on the whole space as the Boolean enumeration `allRuns` (for the reading with
both truncations); derived from the `∀` of `C18_spec_all` through `allRuns_iff`. -/
theorem C18_spec_enumerated : allRuns (fun fl sc => spec fl sc (run (docEnv true true) fl sc).view) = true :=
  allRuns_iff.mpr (C18_spec_all _ (List.mem_cons_self ..))

/-- … in particular for main.go as it is. -/
theorem C18_spec (fl : Flags) (sc : Scenario) : spec fl sc (run goEnv fl sc).view = true :=
  C18_spec_all goEnv C18_main_go_facts.1 fl sc

/-- Valid invocation ⇒ exit 0. -/
theorem C18_valid_exit0 (fl : Flags) (sc : Scenario) (hd : documented fl = true) (hp : sc.prog ≠ .failing) :
    (run goEnv fl sc).exit = .ok :=
  (spec_valid (C18_spec fl sc) hd hp).1

/-- Invalid combination / unknown mode / compile error ⇒ exit ≠ 0, a message (a message line
on standard output or something on standard error), no file modified. -/
theorem C18_invalid (fl : Flags) (sc : Scenario) (h : documented fl = false ∨ sc.prog = .failing) :
    (run goEnv fl sc).exit ≠ .ok ∧
    ((run goEnv fl sc).stdout.any isMsg = true ∨ (run goEnv fl sc).stderr ≠ .none) ∧
    (run goEnv fl sc).jsonFile.unmodified = true ∧ (run goEnv fl sc).fjsonFile.unmodified = true ∧
    (run goEnv fl sc).searched = .untouched :=
  spec_invalid (C18_spec fl sc) h

/-- Replace commands honour the mode: the mode handed to `RunFiles` is the documented
meaning of the flag, NEW when the flag is absent. -/
theorem C18_mode (fl : Flags) (sc : Scenario) (hd : documented fl = true) (hp : sc.prog ≠ .failing)
    (hf : fl.files ≠ .noneMatching) :
    ∃ m, docMode fl.mode = some m ∧ (run goEnv fl sc).searched = .library m ∧
      (fl.mode = .absent → m = .new) := by
  obtain ⟨m, hm, hs, _⟩ := (spec_valid (C18_spec fl sc) hd hp).2 hf
  exact ⟨m, hm, hs, fun ha => by rw [ha] at hm; exact (Option.some.inj hm).symm⟩

/-- The data level: with at least one match, `-json` / `-formatted-json` put exactly one JSON
document — the library's result, nothing before or after it — on standard output, and each
named JSON file holds exactly that document, for results of any type and size, whether or
not the files existed before. -/
theorem C18_json_is_library_result {α : Type} (fl : Flags) (prog : ProgKind) (pre : Bool) (results : List α)
    (hd : documented fl = true) (hp : prog ≠ .failing) (hf : fl.files ≠ .noneMatching)
    (hn : fl.noOutput = false) (hr : results ≠ []) :
    (runData goEnv fl prog pre results).exit = .ok ∧
    (fl.json = true → (runData goEnv fl prog pre results).stdout = [OutData.doc .compact results]) ∧
    (fl.fjson = true → (runData goEnv fl prog pre results).stdout = [OutData.doc .formatted results]) ∧
    (fl.jsonFile = true → (runData goEnv fl prog pre results).jsonFile = FileData.holds .compact results) ∧
    (fl.fjsonFile = true → (runData goEnv fl prog pre results).fjsonFile = FileData.holds .formatted results) := by
  have hlen : (results.length != 0) = true := by
    cases results with
    | nil => exact absurd rfl hr
    | cons a as => rfl
  obtain ⟨he, hv⟩ := spec_valid (C18_spec fl ⟨prog, true, pre⟩) hd hp
  obtain ⟨_, _, _, hv⟩ := hv hf
  obtain ⟨h1, h2, h3, h4⟩ := hv rfl hn
  simp only [runData, hlen]
  exact ⟨he, fun hj => by rw [h1 hj]; rfl, fun hj => by rw [h2 hj]; rfl, fun hj => by rw [h3 hj]; rfl,
    fun hj => by rw [h4 hj]; rfl⟩

/-- The "There were N matches" line is not printed under `-json` / `-formatted-json`. -/
theorem C18_no_count_line_under_json (fl : Flags) (sc : Scenario) (hd : documented fl = true)
    (hp : sc.prog ≠ .failing) (hf : fl.files ≠ .noneMatching) (hn : fl.noOutput = false) (hh : sc.hits = true)
    (hj : fl.json = true ∨ fl.fjson = true) : OutItem.count ∉ (run goEnv fl sc).stdout := by
  obtain ⟨_, _, _, h⟩ := (spec_valid (C18_spec fl sc) hd hp).2 hf
  obtain ⟨h1, h2, _⟩ := h hh hn
  cases hj with
  | inl hj => rw [h1 hj]; simp
  | inr hj => rw [h2 hj]; simp

/-- `vore -com … -files a.txt -json -json-file out.json` on a find program with matches -/
def C18_sampleFlags : Flags :=
  { com := true, src := false, files := .one, json := true, fjson := false, jsonFile := true, fjsonFile := false,
    mode := .absent, noOutput := false }

example : documented C18_sampleFlags = true ∧ (⟨.find, true, false⟩ : Scenario).prog ≠ .failing := by decide
example : documented { C18_sampleFlags with fjson := true } = false := by decide
example : run goEnv C18_sampleFlags ⟨.find, true, true⟩ =
    { exit := .ok, stdout := [.doc .compact], stderr := .none, jsonFile := .holds .compact, fjsonFile := .notNamed,
      searched := .library .new } := by decide
example : docEnvs ≠ [] := by decide
example : C18_sampleFlags.files ≠ .noneMatching ∧ C18_sampleFlags.noOutput = false ∧ [1] ≠ ([] : List Nat) := by decide
/-- the pinned commit's `OpenFile` (`os.O_CREATE` only: read-only) is *not* a documented reading:
the model then predicts the panic that was observed -/
example : (run { docEnv false true with writable := false } C18_sampleFlags ⟨.find, true, false⟩).exit = .panic := by
  decide

end Vore.Cli

#print axioms Vore.Cli.C18_main_go_facts
#print axioms Vore.Cli.C18_spec_enumerated
#print axioms Vore.Cli.C18_spec_all
#print axioms Vore.Cli.C18_spec
#print axioms Vore.Cli.C18_valid_exit0
#print axioms Vore.Cli.C18_invalid
#print axioms Vore.Cli.C18_mode
#print axioms Vore.Cli.C18_json_is_library_result
#print axioms Vore.Cli.C18_no_count_line_under_json

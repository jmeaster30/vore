import Vore.Lemmas.ReplaceSpec
/-!
# C05 — A replacement is the concatenation of its `with` items for that match

`Spec.replacement` (Vore/Spec/Replace.lean) is written against one match record and the `with`
list: strings contribute themselves; a name defined as a transform contributes the transform's
result run on *that* match; any other name contributes a built-in or a string capture of *that*
match, or nothing; the replacement is absent iff nothing contributed.
-/
namespace Vore
open Vore.Spec

/-- every match of a replace command carries exactly `Spec.replacement` of itself -/
theorem C05_replacement (pf : Nat) (st : GenState) (fn : Bytes) (items : List RAtom) (total : Nat) :
    ∀ (ms out : List Match), replaceAll pf fn (items.map (genReplacer st)) total ms = .ok out →
      ListRel (fun m o => ∃ r, replacement pf st.transforms m total fn items none = .ok r ∧
        o = { m with replacement := r }) ms out :=
  fun _ _ h => (replaceAll_spec h).imp fun m _ ⟨r, hr, e⟩ =>
    ⟨r, runReplacer_eq pf st m total fn items none ▸ hr, e⟩

/-- matches, offsets and variables are those of the find command with the same body and amount -/
theorem C05_same_matches (pf vf : Nat) (fn : Bytes) (code : List Instr) (rep : List RInstr) (amt : Amount)
    (text : Bytes) (A R : List Match)
    (hfind : runCmd pf vf fn text (.find amt code) = some (.ok A))
    (hrep : runCmd pf vf fn text (.replace amt code rep) = some (.ok R)) :
    R.map eraseRepl = A.map eraseRepl := by
  simp only [runCmd] at hfind hrep
  rw [hfind] at hrep
  exact replaceAll_fields (Option.some.inj hrep)

/-- what a name contributes: a built-in shadows a capture; a capture must be a string of this match -/
theorem C05_name_lookup (m : Match) (total : Nat) (fn : Bytes) (x : String) :
    (match (replacerVars m total fn).get x with | some (.str s) => some s | _ => none) = nameText m total fn x := by
  rw [replacerVars_get, nameText]
  cases builtin m total fn x with
  | some b => rfl
  | none => rcases m.vars.get x with _ | _ | _ <;> rfl

/-- non-vacuity: `replace all 'a' = x with 'k' x matchNumber` on "a" -/
example : replacement 10 [] (makeMatch 1 0 1 1 { (default : Core) with pos := 1, line := 1, col := 2, cur := [97], env := .cons "x" (.str [97]) .nil }) 1 [116] [.str [107], .var "x", .var "matchNumber", .var "nope"] none = .ok (some [107, 97, 49]) := by rfl

#print axioms C05_replacement
#print axioms C05_same_matches
#print axioms C05_name_lookup

end Vore

import Vore.Lemmas.PathList
/-!
# C20 — A -files pattern selects exactly the files it describes

Model: `Vore/Model/Path.lean` (`pathMatches` as fixed by `fixes/C20-glob.diff`, `ParsePath`,
`GetFileList`, and the directory-tree model of `os.ReadDir`).  Specification:
`Vore/Spec/Glob.lean`.  All theorems are for every name, pattern, directory string and tree.
-/
namespace Vore.Props.C20
open Vore.Path
open Vore.Spec.Glob (NoStarOnlyDir NoDotSegments relSegments startDir render selected)

/-- The segment matcher decides the glob relation (as the recursive decision procedure). -/
theorem C20_segment (name pat : Bytes) : Path.pathMatches name pat = Spec.Glob.matches pat name :=
  Lemmas.Glob.pathMatches_eq name pat

/-- … and so the relation as the property words it: every byte for itself, `*` for any run. -/
theorem C20_segment_relation (name pat : Bytes) :
    Path.pathMatches name pat = true ↔ Spec.Glob.Matches pat name := by
  rw [C20_segment]; exact Lemmas.Glob.matches_iff pat name

/-- `ParsePath(pattern).GetFileList(dir)` returns — as a list, in directory order — the
regular files below the starting directory whose path matches the pattern segment by
segment.  `start` is the (well-formed) tree at the starting directory: `dir` for a relative
pattern, `/` for an absolute one.  `NoDotSegments` is in the statement because the property
excludes such patterns (under the literal segment-by-segment reading a `.` segment selects
nothing, which is also what the code does; the property does not want that claimed as
intended, see the FIXME in path.go); the proof does not need it. -/
theorem C20_list (fs : FS) (pattern dir : Bytes) (start : Dir) (anc : List Dir)
    (hne : pattern ≠ [])
    (hp : NoStarOnlyDir pattern ∧ NoDotSegments pattern)
    (hstart : fs.resolve (startDir pattern dir) = some (start :: anc)) (hwf : start.wf = true) :
    Path.fileList fs.readDir pattern dir = .ok (selected start pattern dir) :=
  Lemmas.PathList.fileList_spec fs pattern dir start anc hne hp.1 hstart hwf

/-- The same as a statement about *which* files: there is a duplicate-free list of relative
paths, containing exactly the paths that name a regular file of the tree (never a
directory) and match the pattern, such that the result is that list written out, again
without duplicates. -/
theorem C20_list_exact (fs : FS) (pattern dir : Bytes) (start : Dir) (anc : List Dir)
    (hne : pattern ≠ [])
    (hp : NoStarOnlyDir pattern ∧ NoDotSegments pattern)
    (hstart : fs.resolve (startDir pattern dir) = some (start :: anc)) (hwf : start.wf = true) :
    ∃ paths : List (List Bytes),
      Path.fileList fs.readDir pattern dir = .ok (paths.map (render (startDir pattern dir))) ∧
      (∀ x, x ∈ paths ↔
        (start.isRegularFile x = true ∧ Spec.Glob.pathMatches (relSegments pattern) x = true)) ∧
      paths.Nodup ∧ (paths.map (render (startDir pattern dir))).Nodup := by
  refine ⟨start.regularFiles.filter (Spec.Glob.pathMatches (relSegments pattern)),
    C20_list fs pattern dir start anc hne hp hstart hwf, ?_, ?_, ?_⟩
  · intro x
    rw [List.mem_filter, Lemmas.PathList.isRegularFile_iff start hwf x]
  · exact (Lemmas.PathList.regularFiles_nodup start hwf).filter _
  · exact Lemmas.PathList.rendered_nodup hwf

/-- The form of DESIGN §6: equal up to permutation to the filtered enumeration. -/
theorem C20_list_perm (fs : FS) (pattern dir : Bytes) (start : Dir) (anc : List Dir)
    (hne : pattern ≠ [])
    (hp : NoStarOnlyDir pattern ∧ NoDotSegments pattern)
    (hstart : fs.resolve (startDir pattern dir) = some (start :: anc)) (hwf : start.wf = true) :
    ∃ out, Path.fileList fs.readDir pattern dir = .ok out ∧ out.Perm (selected start pattern dir) ∧ out.Nodup :=
  ⟨_, C20_list fs pattern dir start anc hne hp hstart hwf, List.Perm.refl _,
    Lemmas.PathList.rendered_nodup hwf⟩

/-! ## non-vacuity: the hypotheses hold of an ordinary tree and pattern, and files are selected -/

/-- `d/` holding `a.txt`, `a.txt.txt`, `sub/` (holding `c.txt`) and, beside `d`, the file `e.txt` -/
def exTree : Dir :=
  .sub [100] (.file [97, 46, 116, 120, 116] (.file [97, 46, 116, 120, 116, 46, 116, 120, 116]
    (.sub [115, 117, 98] (.file [99, 46, 116, 120, 116] .nil) .nil))) (.file [101, 46, 116, 120, 116] .nil)

def exFS : FS := ⟨exTree, [exTree]⟩

/-- `d/*.txt` -/
def exPattern : Bytes := [100, 47, 42, 46, 116, 120, 116]

/-- `/d*/s*/*.txt` -/
def exAbsPattern : Bytes := [47, 100, 42, 47, 115, 42, 47, 42, 46, 116, 120, 116]

example : exPattern ≠ [] ∧ (NoStarOnlyDir exPattern ∧ NoDotSegments exPattern) ∧
    exFS.resolve (startDir exPattern [46]) = some [exTree] ∧ exTree.wf = true := by decide

example : exAbsPattern ≠ [] ∧ (NoStarOnlyDir exAbsPattern ∧ NoDotSegments exAbsPattern) ∧
    exFS.resolve (startDir exAbsPattern [46]) = some [exTree] ∧ exTree.wf = true := by decide

/-- `./d/a.txt` and `./d/a.txt.txt` (the file the unfixed matcher missed); not `sub`, not `e.txt` -/
example : Path.fileList exFS.readDir exPattern [46] =
    .ok [[46, 47, 100, 47, 97, 46, 116, 120, 116], [46, 47, 100, 47, 97, 46, 116, 120, 116, 46, 116, 120, 116]] := by
  decide

example : selected exTree exAbsPattern [46] = [[47, 47, 100, 47, 115, 117, 98, 47, 99, 46, 116, 120, 116]] := by
  decide

example : Spec.Glob.Matches [42, 46, 116, 120, 116] [97, 46, 116, 120, 116, 46, 116, 120, 116] :=
  (C20_segment_relation _ _).mp (by decide)

end Vore.Props.C20

#print axioms Vore.Props.C20.C20_segment
#print axioms Vore.Props.C20.C20_segment_relation
#print axioms Vore.Props.C20.C20_list
#print axioms Vore.Props.C20.C20_list_exact
#print axioms Vore.Props.C20.C20_list_perm

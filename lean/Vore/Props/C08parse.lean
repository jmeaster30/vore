import Vore.Lemmas.ParserFinal
/-!
# C08 (parser part) — the parser is total

Property C08: "Compile returns … either a program and no error, or no program and an error …;
it never panics, never loops forever and never returns a program that contains holes".

Model: `Vore.Parser.parse rx ts` (`Vore/Model/Parser.lean`), the Go functions of
`libvore/ast/parser.go` over `(tokens, index)` with every `tokens[i]` a partial access whose failure
is the outcome `.panic`, and index-driven recursion on a fuel that `parse` instantiates with
`fuelOf ts = 8·|ts| + 16`.  `.fuel` never being returned is the termination claim.

Hypotheses: `EndsEof ts` — the token list is `pre ++ [eof]` with no EOF inside `pre`, which is what
`getTokens` returns (`Lex.getTokens_ok`, `Lemmas/LexTotal.lean`, for the lexer model); and the regex sub-parser (the
opaque parameter `rx`) does not panic.

"No holes": the result type `List Cmd` (`Vore/Model/Basic.lean`) has no nil constructor — the places
where the Go code returned a nil node without an error (`parse_at` "named" without a name, the
Pratt parser after an unclosed `(`, `set x to matches` at end of input) are `.error` in the model of
the fixed code, so a successful result is a complete tree by construction.
-/
namespace Vore.Parser
open Vore Vore.Grammar

variable {rx : Bytes → RegexOutcome} {ts : List Token}

/-- **C08, parser.** On every token list the lexer can return, the parser returns a complete tree
(and an index inside the list) or a parse error — never a panic, never out of fuel. -/
theorem C08_parser_total (hrx : ∀ b, rx b ≠ .panic) (h : EndsEof ts) :
    (∃ cmds k, parse rx ts = .ok cmds k ∧ k < ts.length) ∨ (∃ msg idx, parse rx ts = .error msg idx) := by
  rcases (parse_agree hrx h).inv with ⟨cs, k, hr, _, _, h2⟩ | ⟨m, a, hr, _⟩
  · exact .inl ⟨cs, k, hr, h2⟩
  · exact .inr ⟨m, a, hr⟩

theorem C08_parser_never_panics (hrx : ∀ b, rx b ≠ .panic) (h : EndsEof ts) :
    parse rx ts ≠ .panic ∧ parse rx ts ≠ .fuel ∧ compileFront rx ts ≠ .panic ∧ compileFront rx ts ≠ .fuel := by
  rcases C08_parser_total hrx h with ⟨cs, k, hp, _⟩ | ⟨m, a, hp⟩ <;> simp [compileFront, hp]

/-! ### per region: every function, started inside the list with the fuel `parse` hands out, neither
panics nor runs out of fuel and never steps past the final EOF; `Good ts lo` adds that a successful run
ends at `lo` or later (strict progress, `lo = i + 1`, for an expression; a command has `i < k`) -/

/-- amounts (`parse_amount`) -/
theorem C08_amount (h : EndsEof ts) {i : Nat} (hi : i < ts.length) : Good ts i (parseAmount ts i) :=
  sim_good (parseAmount_sim h ⟨Nat.le_refl _, hi⟩)

/-- search expressions (`parse_expression` and the eleven functions it is mutually recursive with) -/
theorem C08_expression (hrx : ∀ b, rx b ≠ .panic) (h : EndsEof ts) {i : Nat} {t : Token}
    (htk : tk ts i = some t) (hs : ignorable t.kind = false) :
    Good ts (i + 1) (parseExpression rx ts (fuelOf ts) i) :=
  sim_good (expression_top hrx h htk hs)

/-- expression lists (bodies of `find`, `replace`, `set … to pattern`, `( … )`, `{ … }`) -/
theorem C08_exprList (hrx : ∀ b, rx b ≠ .panic) (h : EndsEof ts) (stop : Tok → Bool) {i : Nat}
    (hi : i < ts.length) : Good ts i (exprList rx ts stop (fuelOf ts) i) :=
  sim_good ((expr_sim hrx h (fuelOf ts)).list stop i hi (fuelOf_top (by decide) (by decide)))

/-- the Pratt parser (`parse_expr_pratt`), on EVERY token list -/
theorem C08_pratt (l : List STok) : pratt l ≠ .panic ∧ pratt l ≠ .fuel := pratt_total l

/-- process expressions (`parse_process_expression`, `getProcessExpressionTokens`) -/
theorem C08_processExpression (h : EndsEof ts) {i : Nat} (hi : i < ts.length) :
    Good ts i (parseProcessExpression ts i) :=
  sim_good (parseProcessExpression_sim h ⟨Nat.le_refl _, hi⟩)

/-- process statements (`parse_process_statements`, `_statement`, `_if`, `_loop`, `_set`, `_return`, `_debug`) -/
theorem C08_statements (h : EndsEof ts) {i : Nat} (hi : i < ts.length) :
    parseStatements ts (fuelOf ts) i ≠ .panic ∧ parseStatements ts (fuelOf ts) i ≠ .fuel ∧
    ∀ s k, parseStatements ts (fuelOf ts) i = .ok s k → k < ts.length := by
  rcases (statements_top h hi).inv with
    ⟨v, k, hr, _, _, h2, _⟩ | ⟨v, k, t, hr, _, h1, _⟩ | ⟨m, a, hr, _⟩ <;> rw [hr]
  · exact ⟨nofun, nofun, fun _ _ e => by cases e; exact h2⟩
  · exact ⟨nofun, nofun, fun _ _ e => by cases e; exact lt_of_tk h1⟩
  · exact ⟨nofun, nofun, nofun⟩

/-- commands (`parse_command`, `parse_find`, `parse_replace`, `parse_set*`) -/
theorem C08_command (hrx : ∀ b, rx b ≠ .panic) (h : EndsEof ts) {i : Nat} {t : Token}
    (htk : tk ts i = some t) (hs : ignorable t.kind = false) :
    parseCommand rx ts (fuelOf ts) (fuelOf ts) i ≠ .panic ∧ parseCommand rx ts (fuelOf ts) (fuelOf ts) i ≠ .fuel ∧
    ∀ c k, parseCommand rx ts (fuelOf ts) (fuelOf ts) i = .ok (some c) k → i < k ∧ k < ts.length := by
  rcases (command_top hrx h htk hs).inv with ⟨c, k, hr, _, h1, h2⟩ | ⟨hr, _⟩ | ⟨m, a, hr, _⟩ <;> rw [hr]
  · exact ⟨nofun, nofun, fun _ _ e => by cases e; exact ⟨h1, h2⟩⟩
  · exact ⟨nofun, nofun, nofun⟩
  · exact ⟨nofun, nofun, nofun⟩

/-! ### non-vacuity: the hypotheses are satisfiable and the parser accepts / rejects concrete inputs -/

def exTok (k : Tok) (lex : Bytes := []) : Token := { kind := k, lexeme := lex }

/-- `find all 'a'` -/
def exTokens : List Token :=
  [exTok .find, exTok .ws, exTok .all, exTok .ws, exTok .string [97], exTok .eof]

example : EndsEof exTokens :=
  ⟨exTokens.dropLast, exTok .eof, rfl, rfl, by decide⟩

example : ∀ b, (fun _ : Bytes => RegexOutcome.error) b ≠ .panic := fun _ => nofun

/-- evaluated by the kernel (`decide +kernel`: plain kernel reduction, no extra axiom) -/
theorem C08_example_accepts :
    (match parse (fun _ => .error) exTokens with | .ok [Cmd.find _ _] 5 => true | _ => false) = true := by
  decide +kernel

/-- `find all at` then end of input: an error, not a panic -/
theorem C08_example_rejects :
    (match parse (fun _ => .error) [exTok .find, exTok .ws, exTok .all, exTok .ws, exTok .at, exTok .eof] with
      | .error _ 5 => true | _ => false) = true := by decide +kernel

end Vore.Parser

#print axioms Vore.Parser.C08_parser_total
#print axioms Vore.Parser.C08_parser_never_panics
#print axioms Vore.Parser.C08_amount
#print axioms Vore.Parser.C08_expression
#print axioms Vore.Parser.C08_exprList
#print axioms Vore.Parser.C08_pratt
#print axioms Vore.Parser.C08_processExpression
#print axioms Vore.Parser.C08_statements
#print axioms Vore.Parser.C08_command
#print axioms Vore.Parser.C08_example_accepts
#print axioms Vore.Parser.C08_example_rejects

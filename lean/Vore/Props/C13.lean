import Vore.Model.Engine
import Vore.Lemmas.SimTop
import Vore.Lemmas.ResolveWF
import Vore.Lemmas.Flatten
import Vore.Lemmas.Expand
/-!
# C13 — Definitions are transparent; commands, runs and compilations are independent

Proved here: concatenation of command results and what relocation does to eleven of the sixteen instruction kinds
(`C13_relocate_atoms`; `failNotIn`, `endNotIn`, `startVar`, `endVar`, `endSub` are not in its statement) — statements
about the model as written; transparency at the level of the specification (a subroutine
node, a call and a global pattern mean their body in place, in every context: `Lemmas/Flatten.lean`,
`Lemmas/Expand.lean`); and, through stage 2 of C01, that spellings with the same flattening give the
same VM results whenever the specification answers.
-/
namespace Vore

/-- the result of a multi-command program is the concatenation of the results of its commands -/
theorem C13_concat (pf vf : Nat) (fn text : Bytes) (c : BCmd) (cs : List BCmd) (a b : List Match)
    (ha : runCmd pf vf fn text c = some (.ok a)) (hb : runProgram pf vf fn text cs = some (.ok b)) :
    runProgram pf vf fn text (c :: cs) = some (.ok (a ++ b)) := by
  simp [runProgram, ha, hb]

/-- relocation leaves leaf instructions alone and moves every pc-carrying field by exactly `k`,
including the subroutine id together with the call target compared against it -/
theorem C13_relocate_atoms (k : Nat) :
    (∀ n c s, Instr.adjust k (.lit n c s) = .lit n c s) ∧
    (∀ n c, Instr.adjust k (.cls n c) = .cls n c) ∧
    (∀ n lo hi, Instr.adjust k (.rng n lo hi) = .rng n lo hi) ∧
    (∀ x, Instr.adjust k (.mvar x) = .mvar x) ∧
    (∀ x pc, Instr.adjust k (.call x pc) = .call x (pc + k)) ∧
    (∀ id x e, Instr.adjust k (.startSub id x e) = .startSub (id + k) x (e + k)) ∧
    (∀ ts, Instr.adjust k (.branch ts) = .branch (ts.map (· + k))) ∧
    (∀ pc, Instr.adjust k (.jump pc) = .jump (pc + k)) ∧
    (∀ id mn mx fw ex nm, Instr.adjust k (.startLoop id mn mx fw ex nm) = .startLoop id mn mx fw (ex + k) nm) ∧
    (∀ id st, Instr.adjust k (.stopLoop id st) = .stopLoop id (st + k)) ∧
    (∀ n, Instr.adjust k (.startNotIn n) = .startNotIn (n + k)) := by
  refine ⟨?_, ?_, ?_, ?_, ?_, ?_, ?_, ?_, ?_, ?_, ?_⟩ <;> intros <;> rfl

open Vore.Spec in
/-- an inline subroutine `{B} = s` matches exactly what `B` matches where it stands: same successes in
the same order, same continuations -/
theorem C13_sub_transparent (text : Bytes) (lf pf : Nat) (ρ : Procs) (callK : RExpr → Data → SK → FK → Option SRes)
    (id : Nat) (x : String) (body : RExpr) (d : Data) (ks : SK) (fk : FK) :
    mrWith text lf pf ρ callK (.sub id x body .skip) d ks fk = mrWith text lf pf ρ callK body d ks fk := by
  simp only [mrWith, withPred_skip (pred := .skip) rfl ks]

open Vore.Spec in
/-- a call `s` matches exactly what the body of `s` matches at the point of reference (one level of
call-depth fuel is spent) -/
theorem C13_call_transparent (text : Bytes) (lf pf : Nat) (ρ : Procs) (cf : Nat) (x y : String) (id : Nat)
    (body : RExpr) (hρ : ρ.find id = some (y, body, .skip)) (d : Data) (ks : SK) (fk : FK) :
    mrN text lf pf ρ (cf + 1) (.call x id) d ks fk = mrN text lf pf ρ cf body d ks fk := by
  simp only [mrN, mrWith, hρ, withPred_skip (pred := .skip) rfl ks]

open Vore.Spec in
/-- a global pattern with a predicate: its body in place, then the predicate on everything matched so far -/
theorem C13_global_transparent (text : Bytes) (lf pf : Nat) (ρ : Procs) (callK : RExpr → Data → SK → FK → Option SRes)
    (id : Nat) (x : String) (body : RExpr) (pred : Stmt) (d : Data) (ks : SK) (fk : FK) :
    mrWith text lf pf ρ callK (.sub id x body pred) d ks fk =
      mrWith text lf pf ρ callK body d (fun d' fk' =>
        match predHolds pf pred d' with
        | some true => ks d' fk'
        | some false => fk' ()
        | none => none) fk := rfl

open Vore.Spec in
/-- two spellings with the same specification have the same VM results (from C01 stage 2): what
remains of "naming is transparent" is a statement about the specification alone -/
theorem C13_vm_follows_spec (r1 r2 : RExpr) (h1 : UniqueSubs r1) (h2 : UniqueSubs r2) (w1 : WfR r1) (w2 : WfR r2)
    (n1 : lenR r1 ≠ 0) (n2 : lenR r2 ≠ 0) (text : Bytes) (pf cf nid1 nid2 : Nat) (A : List Match)
    (s1 : findAllR text pf cf r1 = some A) (s2 : findAllR text pf cf r2 = some A) :
    ∃ vf0, ∀ vf, vf0 ≤ vf → ∀ amt,
      findMatches pf vf (genBody r1 nid1).1 amt text = findMatches pf vf (genBody r2 nid2).1 amt text := by
  obtain ⟨v1, hv1⟩ := findMatches_genBody pf text cf r1 nid1 h1 w1 n1 A s1
  obtain ⟨v2, hv2⟩ := findMatches_genBody pf text cf r2 nid2 h2 w2 n2 A s2
  exact ⟨max v1 v2, fun vf hle amt => by
    rw [hv1 vf (Nat.le_trans (Nat.le_max_left _ _) hle) amt, hv2 vf (Nat.le_trans (Nat.le_max_right _ _) hle) amt]⟩

open Vore.Spec in
/-- **definitions are transparent in every context**: matching with subroutine calls nested at most `cf`
deep is — as a function of the position, the bindings and both continuations, i.e. wherever the
expression stands — the call-free matching of the expression in which every call is replaced by the
body of its target (and its predicate, if any) and every `{B} = s` by `B`, `cf` levels deep -/
theorem C13_transparent_in_context (text : Bytes) (lf pf : Nat) (ρ : Procs) (cf : Nat) (e : RExpr) :
    mrN text lf pf ρ cf e = mrWith text lf pf ρ noCall (flattenN ρ cf e) :=
  mrN_flatten ρ cf e

open Vore.Spec in
/-- spellings with the same flattening report the same matches on every text — specification level -/
theorem C13_same_flattening_same_matches (text : Bytes) (pf cf : Nat) (r1 r2 : RExpr)
    (h : flattenN (procsOf r1) cf r1 = flattenN (procsOf r2) cf r2) :
    findAllR text pf cf r1 = findAllR text pf cf r2 :=
  findAllR_of_flatten_eq text pf cf r1 r2 h

open Vore.Spec in
/-- … and so does the VM on their generated code, under every amount clause: for two command bodies
(each with its own global patterns in scope) whose resolved forms flatten to the same expression, whenever
the specification answers -/
theorem C13_spellings_same_vm_results (G1 G2 : GEnv) (e1 e2 : Expr) (r1 r2 : RExpr)
    (hr1 : resolveBody G1 e1 = some r1) (hr2 : resolveBody G2 e2 = some r2)
    (hG1 : WfG G1) (hG2 : WfG G2) (he1 : WfE e1) (he2 : WfE e2) (n1 : lenR r1 ≠ 0) (n2 : lenR r2 ≠ 0)
    (text : Bytes) (pf cf nid1 nid2 : Nat)
    (h : flattenN (procsOf r1) cf r1 = flattenN (procsOf r2) cf r2)
    (A : List Match) (hA : findAllR text pf cf r1 = some A) :
    ∃ vf0, ∀ vf, vf0 ≤ vf → ∀ amt,
      findMatches pf vf (genBody r1 nid1).1 amt text = findMatches pf vf (genBody r2 nid2).1 amt text := by
  have hA2 : findAllR text pf cf r2 = some A := (findAllR_of_flatten_eq text pf cf r1 r2 h).symm.trans hA
  exact C13_vm_follows_spec r1 r2 (resolveBody_unique G1 e1 r1 hr1) (resolveBody_unique G2 e2 r2 hr2)
    (resolveBody_wf G1 e1 r1 hG1 he1 hr1) (resolveBody_wf G2 e2 r2 hG2 he2 hr2) n1 n2 text pf cf nid1 nid2 A hA hA2

open Vore.Spec in
/-- **a program with definitions means what its expansion means**: when writing every definition out in place
(`flattenN`, deep enough) leaves no call and no predicate, the matches of the body with its inline subroutines and
global patterns are exactly the matches of the resulting call-free pattern — whose specification is the
declarative list reading of `Spec.outs` (C01_spec_is_first_of_all_matches) -/
theorem C13_meaning_is_expansion (text : Bytes) (pf cf : Nat) (r : RExpr)
    (h : expandable (flattenN (procsOf r) cf r) = true) :
    CallFree (toExpr (flattenN (procsOf r) cf r)) ∧
    findAllR text pf cf r = findAll text (toExpr (flattenN (procsOf r) cf r)) :=
  ⟨callFree_toExpr _ h, findAllR_eq_findAll_expansion text pf cf r h⟩

section examples
open Vore.Spec

/-- `B` = `('a' or 'b') digit`, context `'x' _ '-' _` -/
private def bodyB : Expr :=
  .seq (.branch (.atom (.str false false [97])) (.atom (.str false false [98]))) (.seq (.atom (.cls false .digit)) .empty)
private def inPlace : Expr :=
  .seq (.atom (.str false false [120])) (.seq bodyB (.seq (.atom (.str false false [45])) (.seq bodyB .empty)))
private def withSub : Expr :=
  .seq (.atom (.str false false [120])) (.seq (.sub "s" bodyB) (.seq (.atom (.str false false [45])) (.seq (.var "s") .empty)))
private def withGlobal : Expr :=
  .seq (.atom (.str false false [120])) (.seq (.var "s") (.seq (.atom (.str false false [45])) (.seq (.var "s") .empty)))

/-- non-vacuity: the three spellings of the property (`B` in place, `{B} = s … s`, `set s to pattern B … s`)
resolve, and flatten to the same expression -/
example : ∃ r1 r2 r3, resolveBody [] inPlace = some r1 ∧ resolveBody [] withSub = some r2 ∧
    resolveBody [("s", bodyB, .skip)] withGlobal = some r3 ∧
    flattenN (procsOf r1) 1 r1 = flattenN (procsOf r2) 1 r2 ∧
    flattenN (procsOf r2) 1 r2 = flattenN (procsOf r3) 1 r3 :=
  ⟨_, _, _, rfl, rfl, rfl, rfl, rfl⟩

/-- non-vacuity: the `{B} = s … s` spelling expands to the in-place pattern `'x' B '-' B` -/
example : ∃ r, resolveBody [] withSub = some r ∧ expandable (flattenN (procsOf r) 1 r) = true ∧
    toExpr (flattenN (procsOf r) 1 r) = inPlace :=
  ⟨_, rfl, rfl, rfl⟩

end examples

#print axioms C13_sub_transparent
#print axioms C13_call_transparent
#print axioms C13_global_transparent
#print axioms C13_vm_follows_spec
#print axioms C13_transparent_in_context
#print axioms C13_same_flattening_same_matches
#print axioms C13_spellings_same_vm_results
#print axioms C13_meaning_is_expansion
#print axioms C13_concat
#print axioms C13_relocate_atoms

end Vore

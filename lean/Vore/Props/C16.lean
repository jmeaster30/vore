import Vore.Lemmas.LexTokens
import Vore.Lemmas.Locate
import Vore.Lemmas.Adv
import Vore.Lemmas.AtomsFrame
/-!
# C16 — String literals denote exactly the bytes their escapes describe

*For every ASCII byte string b, a vore string literal that spells b using either quote style, the
documented escapes (`\n \t \r \a \b \f \v`, `\xHH`, backslash before any other character meaning that
character) or the raw characters, matches the text b and nothing else of that length; an incomplete
`\x` escape keeps all of its following characters.*

Specification: `Vore/Spec/StringLit.lean` (`Sp`, `okAll`, `denoteAll`, `literal`, `Spells`).
Model: `Vore/Model/Lexer.lean` (`lex`), defined from the tables in `Vore/ExtractedLex.lean`, which are
regenerated from libvore/ast/lexer.go on every check; `Vore/Model/VM.lean` (`VMState.matchLit`).
All theorems are for all lengths (induction on the spelling), not enumerations.
Domain: ASCII sources (`Sp.ok` demands every source character `< 128`, not NUL).
-/
namespace Vore.Lex
open Vore Vore.ExtractedLex

/-- **The regenerated tables are the documented ones**: `getEscapedRune` maps exactly the seven
named escape letters (and is the identity elsewhere), `IsHex` accepts exactly `0-9a-fA-F`, and the
lexer never asks bufio to take back more than the one rune it can (`unread(n)` only with `n = 1`). -/
theorem C16_tables :
    (∀ c : UInt8, getEscapedRune c = (docEscape c).getD c) ∧
    (∀ c : UInt8, isHex c = (hexVal c).isSome) ∧
    (∀ n ∈ goUnreads, n = 1) :=
  ⟨getEscapedRune_spec, isHex_spec, goUnreads_single⟩

/-- **A string literal anywhere in a program** (followed by any text `rest`, at any offset) is lexed
as one STRING token spanning exactly the literal, whose lexeme is the byte string the spelling
denotes. -/
theorem C16_literal_in_context (q : Quote) (sps : List Sp) (rest : Bytes) (pos : Nat) (last : Option UInt8)
    (hok : okAll q (q.byte :: rest) sps) :
    getNextToken ⟨q.byte :: (renderAll sps ++ q.byte :: rest), pos, last⟩ =
      .tok ⟨.string, denoteAll sps, pos, pos + (renderAll sps).length + 2⟩
        ⟨rest, pos + (renderAll sps).length + 2, some q.byte⟩ :=
  getNextToken_string q sps rest pos last hok

/-- **C16, lexer half.**  For every byte string `b`, every spelling `sps` of `b` and both quote
styles, the lexer turns the literal into exactly `[STRING b, EOF]`. -/
theorem C16_literal (q : Quote) (sps : List Sp) (b : Bytes) (h : Spells q sps b) :
    lex (literal q sps) =
      .tokens [⟨.string, b, 0, (literal q sps).length⟩,
               ⟨.eof, [], (literal q sps).length, (literal q sps).length⟩] :=
  lex_literal q sps b h

theorem denoteAll_append (xs ys : List Sp) : denoteAll (xs ++ ys) = denoteAll xs ++ denoteAll ys := by
  simp [denoteAll]

/-- **C16, incomplete `\x`.**  `\x` that is not followed by two hexadecimal digits denotes `x`
followed by exactly what the following characters denote on their own (nothing is dropped): a
literal `q sps1 \x sps2 q` whose text after `\x` does not begin with two hex digits lexes to the
STRING `denote sps1 ++ "x" ++ denote sps2`. -/
theorem C16_badhex (q : Quote) (sps1 sps2 : List Sp)
    (h1 : okAll q (92 :: 120 :: (renderAll sps2 ++ [q.byte])) sps1)
    (h2 : okAll q [q.byte] sps2)
    (hbad : ¬ twoHex (renderAll sps2 ++ [q.byte])) :
    lex (q.byte :: (renderAll sps1 ++ 92 :: 120 :: (renderAll sps2 ++ [q.byte]))) =
      .tokens [⟨.string, denoteAll sps1 ++ 120 :: denoteAll sps2, 0, (renderAll sps1).length + (renderAll sps2).length + 4⟩,
               ⟨.eof, [], (renderAll sps1).length + (renderAll sps2).length + 4,
                 (renderAll sps1).length + (renderAll sps2).length + 4⟩] := by
  -- `\x` is here the item `esc 120`, legal because of `hbad`
  have hsp : Spells q (sps1 ++ Sp.esc 120 :: sps2) (denoteAll sps1 ++ 120 :: denoteAll sps2) :=
    ⟨(okAll_append q _ sps1 _).mpr ⟨h1, ⟨by decide, by decide, by decide, fun _ => hbad⟩, h2⟩,
      denoteAll_append sps1 _⟩
  have hl : literal q (sps1 ++ Sp.esc 120 :: sps2) =
      q.byte :: (renderAll sps1 ++ 92 :: 120 :: (renderAll sps2 ++ [q.byte])) := by
    simp [literal, renderAll, Sp.render]
  have hn : (literal q (sps1 ++ Sp.esc 120 :: sps2)).length =
      (renderAll sps1).length + (renderAll sps2).length + 4 := by
    rw [hl]; simp; omega
  rw [← hl, C16_literal q _ _ hsp, hn]

/-! ## every ASCII byte string has a spelling in either quote style (the theorems are not vacuous) -/

/-- the plainest spelling of one byte: the character itself where that is legal, a backslash before a backslash or
the quote, `\x00` for NUL -/
def plainSp (q : Quote) (v : UInt8) : Sp :=
  if v = 0 then .hex 48 48 else if v = 92 ∨ v = q.byte then .esc v else .raw v

theorem plainSp_denote (q : Quote) (v : UInt8) : (plainSp q v).denote = v := by
  unfold plainSp
  split
  · subst v; decide
  · split <;> rfl

theorem plainSp_ok (q : Quote) (next : Bytes) (v : UInt8) (hv : v < 128) : (plainSp q v).ok q next := by
  unfold plainSp
  by_cases h0 : v = 0
  · rw [if_pos h0]; exact ⟨by decide, by decide, by decide⟩
  · by_cases hq : v = 92 ∨ v = q.byte
    · have : docEscape v = none ∧ v ≠ 120 := by cases q <;> rcases hq with rfl | rfl <;> decide
      rw [if_neg h0, if_pos hq]
      exact ⟨h0, hv, this.1, fun h => absurd h this.2⟩
    · rw [if_neg h0, if_neg hq]
      exact ⟨h0, hv, fun h => hq (.inl h), fun h => hq (.inr h)⟩

/-- every ASCII byte string can be spelled (for instance character by character) in either quote style -/
theorem C16_spelling_exists (q : Quote) (b : Bytes) (hb : ∀ v ∈ b, v < 128) : ∃ sps, Spells q sps b := by
  refine ⟨b.map (plainSp q), ?_, by simp [denoteAll, Function.comp_def, plainSp_denote]⟩
  induction b with
  | nil => trivial
  | cons v vs ih =>
    obtain ⟨hv, hvs⟩ := List.forall_mem_cons.mp hb
    exact ⟨plainSp_ok q _ v hv, ih hvs⟩

/-- hence: for every ASCII byte string and either quote style there is a literal that lexes to it -/
theorem C16_literal_exists (q : Quote) (b : Bytes) (hb : ∀ v ∈ b, v < 128) :
    ∃ src, ∃ n, lex src = .tokens [⟨.string, b, 0, n⟩, ⟨.eof, [], n, n⟩] := by
  obtain ⟨sps, h⟩ := C16_spelling_exists q b hb
  exact ⟨literal q sps, _, C16_literal q sps b h⟩

/-! ## matching half: the literal's instruction matches exactly the bytes `b` -/

/-- **C16, matching half.**  The VM instruction generated for a (non-negated, case-sensitive)
literal `b ≠ ""` succeeds at the current position `p` iff `text[p, p+|b|) = b`; it then consumes
exactly those `|b|` bytes, and otherwise backtracks.  With `C16_literal`: a literal matches the
bytes its spelling denotes and nothing else of that length. -/
theorem C16_lit_match (text : Bytes) (s : VMState) (b : Bytes) (hb : b ≠ []) :
    s.matchLit text b false false =
      (if s.core.pos + b.length ≤ text.length ∧ (text.drop s.core.pos).take b.length = b
       then s.consumeNext text b.length else s.backtrack) ∧
    (s.core.pos + b.length ≤ text.length → (text.drop s.core.pos).take b.length = b →
      (s.core.consume text b.length).pos = s.core.pos + b.length ∧
      (s.core.consume text b.length).cur = s.core.cur ++ b) := by
  have hlen : b.length ≠ 0 := mt List.eq_nil_of_length_eq_zero hb
  rw [lift_matchLit, litD_plain hb, apply_ite (lift s), ← lift_consumeNext, lift_none, data_pos]
  by_cases hfit : s.core.pos + b.length ≤ text.length
  · rw [readAt_of_le hlen hfit]
    refine ⟨by simp only [hfit, true_and], fun _ heq => ?_⟩
    simp only [Core.consume, readAt_of_le hlen hfit, heq, and_self]
  · rw [readAt_of_gt (Nat.lt_of_not_le hfit), if_neg (Ne.symm hb), if_neg (fun h => hfit h.1)]
    exact ⟨rfl, fun h => absurd h hfit⟩

/-! ## non-vacuity: concrete instances of the hypotheses -/

/-- `'\x41b\n\'\q'` (hex, raw, named, escaped quote, escaped ordinary character) spells `Ab\n'q` -/
example : Spells .single [.hex 52 49, .raw 98, .named 110, .esc 39, .esc 113] [65, 98, 10, 39, 113] := by
  refine ⟨?_, rfl⟩
  simp only [okAll, Sp.ok]
  decide

/-- `"\xZZ"`: `\x` without hex digits keeps both `Z`s (the pinned commit lost one) -/
example : lex [34, 92, 120, 90, 90, 34] = .tokens [⟨.string, [120, 90, 90], 0, 6⟩, ⟨.eof, [], 6, 6⟩] := by
  have := C16_badhex .double [] [.raw 90, .raw 90] (by simp [okAll]) (by simp [okAll, Sp.ok, Quote.byte])
    (by simp [renderAll, Sp.render, twoHex, hexVal])
  simpa [renderAll, Sp.render, denoteAll, Sp.denote, Quote.byte] using this

/-- a raw single quote inside a double-quoted literal, and vice versa -/
example : Spells .double [.raw 39] [39] ∧ Spells .single [.raw 34] [34] := by
  refine ⟨⟨?_, rfl⟩, ⟨?_, rfl⟩⟩ <;> simp [okAll, Sp.ok, Quote.byte]

end Vore.Lex

#print axioms Vore.Lex.C16_tables
#print axioms Vore.Lex.C16_literal_in_context
#print axioms Vore.Lex.C16_literal
#print axioms Vore.Lex.C16_badhex
#print axioms Vore.Lex.C16_spelling_exists
#print axioms Vore.Lex.C16_literal_exists
#print axioms Vore.Lex.C16_lit_match

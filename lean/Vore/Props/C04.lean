import Vore.Lemmas.Window
import Vore.Lemmas.Replace
import Vore.Lemmas.Ds
import Vore.Lemmas.ScanQueue
/-!
# C04 — all/skip/take/top/last select windows of one and the same match sequence

`A` is the result of `find all B`; the theorems say what every other clause returns, for every
instruction list `B` (any body), every input and every fuel.  Matches are unchanged (same
records, including `number`).  The hypothesis is that `find all B` itself returns (it could
diverge or panic on a program outside C09/C10's domain; a shorter window may still return then).
-/
namespace Vore
open Vore.Spec

/-- the window an arbitrary amount tuple selects is the one its clause describes -/
theorem C04_clause_window (cl : Clause) (hlast : ∀ n, cl = .last n → 1 ≤ n) (A : List Match) :
    window cl.amount A = select cl A := by
  cases cl with
  | all | top n | take n | skip s => simp [window, Clause.amount, select, limitLast]
  | skipTake s t =>
    simp only [window, Clause.amount, select, limitLast_zero, Bool.false_eq_true, if_false]
    rw [List.drop_take, Nat.add_sub_cancel_left]
  | last n =>
    have := hlast n rfl
    have hn : (n != 0) = true := by simp; omega
    simp [window, Clause.amount, select, limitLast, hn]

/-- find: every clause returns the property's selection of the `find all` sequence -/
theorem C04_window (pf vf : Nat) (body : List Instr) (text : Bytes) (cl : Clause)
    (hlast : ∀ n, cl = .last n → 1 ≤ n) (A : List Match)
    (hall : findMatches pf vf body Clause.all.amount text = some (.ok A)) :
    findMatches pf vf body cl.amount text = some (.ok (select cl A)) := by
  rw [← C04_clause_window cl hlast A]
  exact findMatches_window pf vf body cl.amount text A hall

/-- any (all, skip, take, last) tuple, clause or not -/
theorem C04_window_amount (pf vf : Nat) (body : List Instr) (text : Bytes) (a : Amount) (A : List Match)
    (hall : findMatches pf vf body ⟨true, 0, 0, 0⟩ text = some (.ok A)) :
    findMatches pf vf body a text = some (.ok (window a A)) :=
  findMatches_window pf vf body a text A hall

/-- replace commands select the same located matches (replacements aside) -/
theorem C04_window_replace (pf vf : Nat) (fn : Bytes) (body : List Instr) (rep : List RInstr) (text : Bytes)
    (cl : Clause) (hlast : ∀ n, cl = .last n → 1 ≤ n) (A R : List Match)
    (hall : findMatches pf vf body Clause.all.amount text = some (.ok A))
    (hrep : runCmd pf vf fn text (.replace cl.amount body rep) = some (.ok R)) :
    R.map eraseRepl = (select cl A).map eraseRepl := by
  have hw := C04_window pf vf body text cl hlast A hall
  simp only [runCmd, hw, Option.some.injEq] at hrep
  exact replaceAll_fields hrep

/-- non-vacuity: overlapping occurrences, `skip 1 take 1 'aa'` on `aaaa` -/
example : findMatches 10 100 [.lit false false [97, 97]] (Clause.skipTake 1 1).amount [97, 97, 97, 97] =
    (findMatches 10 100 [.lit false false [97, 97]] Clause.all.amount [97, 97, 97, 97]).map
      (fun r => match r with | .ok A => .ok ((A.drop 1).take 1) | x => x) := by rfl


/-! ## `last n` through the queue as written (libvore/ds/queue.go)

The scan model keeps the `last n` window with `limitLast`; the engine keeps it in a `ds.Queue`
(`matches.Push(m); if last != 0 { matches.Limit(last) }`, `Limit` = `for Size() > uint64(n) { Pop() }`).
`Model/Ds.lean` is that code as written; these theorems tie it to the list reading. -/

/-- one step of the engine's window = one step of the model's -/
theorem C04_queue_step (q : Ds.Queue Match) (m : Match) (last : Nat) :
    (if last != 0 then ((q.push m).limit (last : Int)).store else (q.push m).store) = limitLast last (q.store ++ [m]) :=
  by rw [← apply_ite Ds.Queue.store]; exact pushLimit_store last q m

/-- **every history**: after pushing any sequence of matches with `Limit(n)` after each push (n ≥ 1) the queue holds
exactly the final `n` of them, unchanged and in order — `Spec.select (.last n)` of the sequence -/
theorem C04_queue_last_n (n : Nat) (hn : 1 ≤ n) (ms : List Match) :
    (ms.foldl (fun q m => (q.push m).limit (n : Int)) (Ds.Queue.new : Ds.Queue Match)).contents = ms.drop (ms.length - n) :=
  Ds.push_limit_history n ms

/-- `Limit` never removes more than asked, whatever the amount (a negative one converts to a huge unsigned bound) -/
theorem C04_queue_limit (q : Ds.Queue Match) (amount : Int) :
    (q.limit amount).store = q.store.drop (q.store.length - Ds.toU64 amount) :=
  Ds.limit_store q amount

/-- **the scan loop over the real queue**: `findMatches` written with `ds.Queue` exactly as search.go uses it
(`Push`, `Limit(last)` when `last != 0`, `Contents()` — `Vore.findMatchesQ`, Lemmas/ScanQueue.lean) is the same
function as the `findMatches` all theorems of C01, C03, C04 are about, for every program, amount tuple, text and fuel -/
theorem C04_scan_uses_queue_as_written (pf vf : Nat) (prog : List Instr) (amt : Amount) (text : Bytes) :
    findMatchesQ pf vf prog amt text = findMatches pf vf prog amt text := by
  unfold findMatchesQ findMatches
  rw [scanQ_eq_scan]
  rfl

/-- … so the window theorem holds for the loop with the container code as written -/
theorem C04_window_queue (pf vf : Nat) (body : List Instr) (text : Bytes) (cl : Clause) (hlast : ∀ n, cl = .last n → 1 ≤ n)
    (A : List Match) (hall : findMatchesQ pf vf body Clause.all.amount text = some (.ok A)) :
    findMatchesQ pf vf body cl.amount text = some (.ok (select cl A)) := by
  rw [C04_scan_uses_queue_as_written] at hall ⊢
  exact C04_window pf vf body text cl hlast A hall

/-- the queue as written is first-in first-out: any sequence of `Push` followed by as many `Pop` returns the pushed
values in order and leaves it empty; further `Pop`s return nil -/
theorem C04_queue_fifo (xs : List Match) (k : Nat) :
    Ds.Queue.popN (xs.length + k) (xs.foldl Ds.Queue.push (Ds.Queue.new : Ds.Queue Match)) =
      (xs.map some ++ List.replicate k none, ⟨[]⟩) :=
  Ds.fifo xs k

/-- non-vacuity: 1 2 3 4 through `Limit(2)` after every push leaves 3 4 -/
example : ([1, 2, 3, 4].foldl (fun q m => (q.push m).limit 2) (Ds.Queue.new : Ds.Queue Nat)).contents = [3, 4] := by decide

#print axioms C04_clause_window
#print axioms C04_window
#print axioms C04_window_amount
#print axioms C04_window_replace
#print axioms C04_queue_step
#print axioms C04_queue_last_n
#print axioms C04_queue_limit
#print axioms C04_queue_fifo
#print axioms C04_scan_uses_queue_as_written
#print axioms C04_window_queue

end Vore

import Vore.Spec.Files
import Vore.Lemmas.Files
/-!
# C07 — Searching a file gives the same result as searching its bytes in memory

Model: `Vore/Model/Files.lean` (`BufferedFile`, `StringRSC`, `Reader`), of the code after
`fixes/C07-emptyfile.diff`, `C07-readeof.diff`, `C07-negseek.diff`.

All theorems are for **every** file content (the empty file included), **every** buffer size
`B ≥ 1` (Go: 4096), **every** history of `Seek`/`Read`/`ReadAt` calls with arbitrary `Int`
arguments (negative offsets and lengths, reads past the end, `Read` after `Read` with the stale
`Reader.offset` — nothing is excluded), no bound on sizes or on the number of calls.

Assumption (DESIGN §8, stated in Model/Files.lean): `os.File.ReadAt` / the first `os.File.Read`
are the pure functions `osReadAt` / `osReadFirst` of the file contents (regular file, not
modified while open).  The VM model (Model/VM.lean) reads its input only through `Vore.readAt`;
`C07_reader_law` is that contract for the file reader, so every theorem about
`findMatches`/`searchReplace` over `text` is a theorem about `RunFiles` on a file holding `text`.
-/
namespace Vore
open Vore.Files

/-- **The reader contract holds in every reachable state of the file reader.**
`Reader.ReadAt(n, off)` and `Reader.Seek(off); Reader.Read(n)` over a `BufferedFile` return
exactly `readAt file off n` — the `n` bytes of the file at `off`, or `""` when they are not all
there or `n = 0` — whatever calls were made before (window anywhere, cursor anywhere). -/
theorem C07_reader_law (B : Nat) (hB : 1 ≤ B) (file : Bytes) (r : Reader BufferedFile)
    (hr : Reachable B file r) : ReaderLawAt file r := by
  obtain ⟨ops, hops⟩ := hr
  exact fun n off => reader_law (runOps_inv ops _ r (readerFromFile_inv B hB file) hops) n off _ rfl

/-- non-vacuity: a reachable state whose window has been re-centred (it starts at 5, the cursor
is at 9, at the end of the window, which fills the whole 4-byte buffer) -/
example : ∃ r, Reachable 4 [10, 11, 12, 13, 14, 15, 16, 17, 18, 19] r ∧
    r.contents.minOffset = 5 ∧ r.contents.maxOffset = 9 ∧ r.contents.currentOffset = 9 ∧
    r.contents.buffer = [15, 16, 17, 18] :=
  ⟨_, ⟨[.seek 7, .read 2], rfl⟩, by decide⟩

/-- non-vacuity: and the law's conclusion there is not the trivial one -/
example : Vore.readAt [10, 11, 12, 13, 14, 15, 16, 17, 18, 19] 1 3 = [11, 12, 13] := by decide

/-- **Refinement: a file and a string holding the same bytes are indistinguishable through
`files.Reader`.**  Every history gives the same sequence of observations (returned strings,
panics) on `ReaderFromFile` as on `ReaderFromString` — including the histories that end in a
panic (a negative seek, a read at the end of the input behind a stale bounds check). -/
theorem C07_same_results (B : Nat) (hB : 1 ≤ B) (file : Bytes) : SameObservations B file :=
  fun ops => (runOps_refines ops _ (readerFromFile_inv B hB file)).1

/-- the same for the buffer size of the Go code -/
theorem C07_same_results_4096 (file : Bytes) (ops : List ROp) :
    (runOps (ReaderFromFile file) ops).1 = (runOps (ReaderFromString file) ops).1 :=
  C07_same_results 4096 (by decide) file ops

/-- non-vacuity: a history over a 10-byte file with a 4-byte buffer that reads forward across
three windows, one byte back, far back, up to the end and past the end (a negative seek is the
next example); the observations are the expected ones (and equal on both sides by the theorem). -/
example :
    (runOps (ReaderFromFileB 4 [10, 11, 12, 13, 14, 15, 16, 17, 18, 19])
      [.readAt 9 0, .seek 8, .read 1, .seek 7, .read 1, .readAt 2 0, .readAt 3 7, .readAt 3 8,
       .read 0, .seek 0, .read 10, .read 1]).1 =
    [.str [10, 11, 12, 13, 14, 15, 16, 17, 18], .str [], .str [18], .str [], .str [17],
     .str [10, 11], .str [17, 18, 19], .str [], .str [], .str [],
     .str [10, 11, 12, 13, 14, 15, 16, 17, 18, 19], .panic (.err .eof)] := by decide

example : (runOps (ReaderFromFileB 4 [1, 2, 3]) [.seek (-2)]).1 = [.panic (.err .negativeSeek)] := by
  decide

/-- non-vacuity: the empty file opens and reads as the empty string -/
example : (runOps (ReaderFromFileB 4 []) [.readAt 1 0, .seek 0, .read 1, .read 0]).1 =
    [.str [], .str [], .str [], .str []] := by decide

/-- **`Read`'s refill loop terminates** in every reachable state, for every request size:
`n + 1` iterations of the outer loop are enough, more fuel changes nothing, the result is
never `spin`. -/
theorem C07_read_terminates (B : Nat) (hB : 1 ≤ B) (file : Bytes) (r : Reader BufferedFile)
    (hr : Reachable B file r) (n fuel : Nat) (hf : n + 1 ≤ fuel) :
    r.contents.ReadFuel fuel n = r.contents.Read n ∧ r.contents.Read n ≠ .spin := by
  obtain ⟨ops, hops⟩ := hr
  exact read_terminates (runOps_inv ops _ r (readerFromFile_inv B hB file) hops).2 n fuel hf

/-- non-vacuity: a read that needs four refills (12 bytes through a 4-byte window; a refill
puts the cursor in the middle of the new window, so each one yields 2 bytes) -/
example : ∃ v out, (NewBufferedFileB 4 [1, 2, 3, 4, 5, 6, 7, 8, 9, 10, 11, 12, 13] 13).Read 12 =
    .ret v out none ∧ out = [1, 2, 3, 4, 5, 6, 7, 8, 9, 10, 11, 12] ∧ v.minOffset = 8 :=
  ⟨_, _, rfl, by decide, by decide⟩

/-- **No history makes the file reader spin or index outside its buffer.** -/
theorem C07_no_spin_no_index_panic (B : Nat) (hB : 1 ≤ B) (file : Bytes) (ops : List ROp) :
    Obs.spin ∉ (runOps (ReaderFromFileB B file) ops).1 ∧
    ∀ i, Obs.panic (.index i) ∉ (runOps (ReaderFromFileB B file) ops).1 :=
  (runOps_refines ops _ (readerFromFile_inv B hB file)).2.2

#print axioms C07_reader_law
#print axioms C07_same_results
#print axioms C07_same_results_4096
#print axioms C07_read_terminates
#print axioms C07_no_spin_no_index_panic

end Vore

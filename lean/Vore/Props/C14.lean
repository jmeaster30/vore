import Vore.Lemmas.RegexParse
import Vore.Lemmas.RegexTotal
import Vore.Lemmas.RegexSem
import Vore.Props.C01
/-!
# C14 — A regex literal finds what that regular expression finds

`Re` (Vore/Spec/Regex.lean) is the supported subset: literal characters, `.`, bracket classes with
ranges and negation, `\d \D \s \S`, groups plain / non-capturing / named, quantifiers
`* + ? {m} {m,} {m,n}` and their lazy forms, alternation of single (possibly quantified) atoms or
groups, `^ $` as line anchors, numbered and named back-references.  `Re.show` is its conventional
concrete syntax, `Re.toExpr` the vore tree the documented Regex-to-Vore table assigns to it,
`Regex.findAll` what a conventional leftmost-first backtracking engine finds, scanning as the
property says (non-empty matches, position by position).

* `C14_parse` — for **every** regex of the subset the model of `parser_regexp.go` reads the printed
  regex back as exactly the documented tree (induction on the regex, in all contexts and up to
  running out of fuel, in `Lemmas/RegexParse.lean`; the fuel supplied suffices by `parseRaw_ne_fuel`).
  In particular the sub-parser accepts every regex of the subset.
* `C14_total` — on **every** byte string the regex parser answers `ok` or `error`: below the
  `recover` of `parse_regexp` it never runs out of fuel (`parseRaw_ne_fuel`: the recursion always
  continues on a strictly shorter suffix — termination of the Go code), and the `recover` turns
  every index-out-of-range / explicit panic into a ParseError.  This is the regex half of C08.
* `C14_sem` — for every regex of the subset whose repeated bodies cannot match the empty
  string and every text without `\r` and `\f`: the backtracking specification of the translated
  tree (`Spec.findAll`, the one C01 proves the VM implements) reports the same non-empty spans in
  the same order with the same group texts as the conventional semantics.  Induction on the regex
  relating `Spec.m` to `Regex.m` (`Lemmas/RegexSem.lean`); vore's loop rule (optional iterations
  must consume, mandatory copies unrolled, the head visited once more at `max`) meets the textbook
  rule exactly under `NonNullableBodies`.
  `\D` is included: `@/a\D/` does not match the `a` of `"a"`, `\D` needs a character (fix f73d71e; the shared
  atom `Spec.rangeLoopD` is the model of the fixed code, `rangeD_byte` in Lemmas/RegexSem.lean covers both polarities).
* `C14_callfree`, `C14_vm_partial`, `C14_find_command_partial` — the translated tree is call-free, so
  `C01_refines_partial` applies: the VM on the generated code of `find all @/re/` returns the matches
  of the conventional semantics, under every amount clause, and terminates.
-/
namespace Vore
open Vore.Regex Vore.RegexParser Vore.Spec Vore.Rx

/-- the regex parser reads a printed regex of the subset back as its documented translation; the
group counter may start anywhere (second literal of a program) -/
theorem C14_parse_from (r : Re) (n0 n' : Nat) (hseq : r.isSeq = true) (hsup : r.sup = true)
    (hnum : r.numFrom n0 = some n') : RegexParser.parseFrom n0 r.show = .ok (r.toExpr, n') := by
  have h := (parse_all r hsup).body hseq n0 n' [] hnum rfl (fuelFor r.show)
  simp only [List.append_nil] at h
  rcases h with h | h
  · exact absurd h (parseRaw_ne_fuel n0 r.show)
  · simp [parseFrom, parseRaw, h]

theorem C14_parse (r : Re) (h : Supported r) : RegexParser.parse r.show = .ok r.toExpr := by
  obtain ⟨hseq, hsup, hnum⟩ := h
  obtain ⟨n', hn'⟩ := Option.isSome_iff_exists.mp hnum
  simp [RegexParser.parse, C14_parse_from r 0 n' hseq hsup hn']

/-- **C14_total** (regex half of C08): on any byte string, with any starting group number, the regex
parser returns a tree or a ParseError — it never runs out of fuel and, above the `recover`, never panics -/
theorem C14_total (p : Bytes) (n0 : Nat) :
    (∃ e n, RegexParser.parseFrom n0 p = .ok (e, n)) ∨ (∃ msg, RegexParser.parseFrom n0 p = .error msg) :=
  parseFrom_total p n0

theorem C14_total_first (p : Bytes) :
    (∃ e, RegexParser.parse p = .ok e) ∨ (∃ msg, RegexParser.parse p = .error msg) := by
  unfold RegexParser.parse
  rcases C14_total p 0 with ⟨e, n, h⟩ | ⟨m, h⟩
  · exact Or.inl ⟨e, by rw [h]⟩
  · exact Or.inr ⟨m, by rw [h]⟩

def C14_sem_statement : Prop :=
  ∀ (r : Re) (text : Bytes), Supported r → NonNullableBodies r → TextOK text →
    (Spec.findAll text r.toExpr).map (List.map spanOfMatch) = Regex.findAll r text

/-- **C14_sem**: same non-empty spans, in the same order, groups bound to the same text —
for every regex of the subset whose repeated bodies cannot match the empty string and
every text without `\r` and `\f` -/
theorem C14_sem (r : Re) (text : Bytes) (hs : Supported r) (hn : NonNullableBodies r)
    (ht : TextOK text) :
    (Spec.findAll text r.toExpr).map (List.map spanOfMatch) = Regex.findAll r text :=
  findAll_regex ht r (semOK_of_sup r hs.2.1) hn

theorem C14_callfree : ∀ r : Re, r.sup = true → CallFree r.toExpr :=
  fun r h => callFree_of_semOK r (semOK_of_sup r h)

/-- the conventional semantics never diverges on the property's domain -/
theorem C14_regex_total (r : Re) (text : Bytes) (hs : Supported r) (hn : NonNullableBodies r)
    (ht : TextOK text) : Regex.findAll r text ≠ none := by
  rw [← C14_sem r text hs hn ht]
  simpa using findAll_total text r.toExpr

/-- **C14_vm_partial**: the VM on the code generated for the translated tree returns, under every amount
clause, the window of a match list whose spans and groups are those of the conventional semantics -/
theorem C14_vm_partial (r : Re) (text : Bytes) (hs : Supported r) (hn : NonNullableBodies r)
    (ht : TextOK text) (nid : Nat) (hne : codeLen r.toExpr ≠ 0) :
    ∃ A, Regex.findAll r text = some (A.map spanOfMatch) ∧
      ∀ pf, ∃ vf0, ∀ vf, vf0 ≤ vf → ∀ amt,
        findMatches pf vf (genCF r.toExpr 0 nid).1 amt text = some (.ok (window amt A)) := by
  obtain ⟨A, hA, hrest⟩ := C01_refines_partial text r.toExpr (C14_callfree r hs.2.1) nid hne
  have := C14_sem r text hs hn ht
  rw [hA] at this
  exact ⟨A, this.symm, hrest⟩

/-- the body of `find all @/re/` is the one-element list `[the literal]` -/
theorem findAll_seq_empty (text : Bytes) (e : Expr) : Spec.findAll text (.seq e .empty) = Spec.findAll text e := by
  have h : Spec.attempt text (text.length + 2) (.seq e .empty) = Spec.attempt text (text.length + 2) e := by
    funext pos line col; simp only [Spec.attempt, Spec.m]
  simp only [Spec.findAll, Spec.scanAll, h]

/-- the compiled command `find <amount> @/re/`, run by `runCmd` -/
theorem C14_find_command_partial (r : Re) (text fn : Bytes) (amt : Amount) (hs : Supported r)
    (hn : NonNullableBodies r) (ht : TextOK text) (hne : codeLen r.toExpr ≠ 0)
    (st st' : GenState) (hg : st.globals = []) (c : BCmd)
    (h : genCmd (.find amt (.seq r.toExpr .empty)) st = .ok (c, st')) :
    ∃ A, Regex.findAll r text = some (A.map spanOfMatch) ∧
      ∀ pf, ∃ vf0, ∀ vf, vf0 ≤ vf → runCmd pf vf fn text c = some (.ok (window amt A)) := by
  have hcf : CallFree (.seq r.toExpr .empty) := ⟨C14_callfree r hs.2.1, trivial⟩
  have hcl : codeLen (.seq r.toExpr .empty) ≠ 0 := by simp [codeLen, hne]
  obtain ⟨A, hA, hrest⟩ := C01_find_command text fn amt _ hcf hcl st st' hg c h
  rw [findAll_seq_empty] at hA
  have := C14_sem r text hs hn ht
  rw [hA] at this
  exact ⟨A, this.symm, hrest⟩

/-- `(a|[b-d]+)*?x\1` — a quantified group containing an alternation with a quantified arm, lazy, a back-reference -/
def exampleRe : Re :=
  .seq (.rep (.group 1 (.seq (.alt (.chr 97) (.rep (.cls false [.range 98 100]) .plus false)) .empty)) .star true)
    (.seq (.chr 120) (.seq (.backref 1) .empty))

example : Supported exampleRe ∧ NonNullableBodies exampleRe ∧ codeLen exampleRe.toExpr ≠ 0 := by
  decide

/-- its text: `(a|[b-d]+)*?x\1` -/
example : exampleRe.show = [40, 97, 124, 91, 98, 45, 100, 93, 43, 41, 42, 63, 120, 92, 49] := by decide

example : RegexParser.parse [40, 97, 124, 91, 98, 45, 100, 93, 43, 41, 42, 63, 120, 92, 49] = .ok exampleRe.toExpr :=
  C14_parse exampleRe (by decide)

/-- `(?<n>\s{2,3}|^)$\k<n>.` -/
def exampleRe2 : Re :=
  .seq (.named [110] (.seq (.alt (.rep (.space false) (.between 2 3) false) .bol) .empty))
    (.seq .eol (.seq (.backrefNamed [110]) (.seq .dot .empty)))

example : Supported exampleRe2 ∧ NonNullableBodies exampleRe2 := by decide

/-- `"ab x\n  bcdxbcd"` -/
example : TextOK [97, 98, 32, 120, 10, 32, 32, 98, 99, 100, 120, 98, 99, 100] := by unfold TextOK; decide

/-- both outcomes of `C14_total` occur -/
example : ∃ e, RegexParser.parse [97, 123, 50, 44, 125] = .ok e :=   -- `a{2,}`
  ⟨_, C14_parse (.seq (.rep (.chr 97) (.atLeast 2) false) .empty) (by decide)⟩
/-- `a{`: the quantifier parser indexes past the end of the pattern … -/
example : RegexParser.parseRaw 0 [97, 123] = .panic "index" := by
  simp [parseRaw, fuelFor, disj, pattern, literal, finishAtom, quantifier, number, PR.bind]
/-- … and `parse_regexp`'s `recover` makes that a ParseError -/
example : ∃ msg, RegexParser.parse [97, 123] = .error msg :=
  ⟨"Malformed regular expression: " ++ "index", by
    simp [RegexParser.parse, parseFrom, parseRaw, fuelFor, disj, pattern, literal, finishAtom, quantifier, number, PR.bind]⟩

#print axioms C14_parse
#print axioms C14_parse_from
#print axioms C14_total
#print axioms C14_total_first
#print axioms C14_sem
#print axioms C14_callfree
#print axioms C14_regex_total
#print axioms C14_vm_partial
#print axioms C14_find_command_partial

end Vore

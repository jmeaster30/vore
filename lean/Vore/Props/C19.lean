import Vore.Lemmas.Sched
import Vore.Lemmas.SchedGo
import Vore.Model.VM
/-!
# C19 — Compile and Run are safe to call from many goroutines   (PARTIAL)

Property text: *any number of goroutines may compile sources and run compiled programs (the
same or different ones) at the same time: every call returns what it returns when executed
alone, and no memory is accessed by two goroutines without synchronisation.*

What is proved here, and what is not.  A data race is a notion of the Go memory model and
depends on the scheduler; no theorem about a Lean model exhibits or excludes one in the real
runtime.  What *is* logic is that calls interfere only through shared mutable locations.
The theorems below are about the interleaving model `Vore/Model/Sched.lean` — threads of
atomic actions, arbitrary schedules — and about the shared-state facts re-extracted from the
Go source on every check (`Vore/ExtractedGlobals.lean`):

* `C19_noninterference` — for ANY family of threads and EVERY schedule: if every written
  shared location is confined to one thread or protected by a mutex (every access holds it,
  and a value read from the location reaches a result only if the reader wrote the location
  earlier in the same critical section), then every thread's result is its sequential result
  and the trace has no two conflicting accesses unordered by happens-before (program order +
  unlock→lock).  No bound on threads or length.
* `parser_state_confined` — every package-level variable of libvore written by a function
  reachable from `Compile`/`Run` (the regex group counter `capture_group_number`) is lock
  protected: touched only by functions that hold the package mutex for their whole body or are
  reachable only through such a function, and every holder resets it before anything reads it
  (by `decide` on the extracted data; removing the `parseMutex.Lock(); defer parseMutex.Unlock()`
  prologue of `parse`, or a written package-level variable that some reachable function touches
  outside such a holder, makes this theorem fail).
* `calls_are_single_threads` — no function reachable from `Compile`/`Run` starts a goroutine.
* `bytecode_readonly_at_run` — no engine function assigns through a value of a bytecode/ast
  type (extracted), and in the model a call never writes a `code` location.
* `C19_compile_run` — the instance: concurrent `Compile`/`Run` calls whose shared accesses are
  the ones the extracted facts leave possible do not interfere.
* `C19_shared_counter_interferes` — the theorem can fail: with one unprotected package-level
  counter (the parser without the mutex) a concrete two-thread schedule gives a thread a result that
  differs from its sequential result, and its trace has a data race.

Outside the theorem (named in the evidence): the Go memory model and scheduler, the race
detector's completeness, the runtime and `math/rand`'s internal locking, and the fidelity of
the extractor and of `GoCalls` as a description of what the Go code touches.  These are
exercised — not proved — by `harness/cmd/racedrive` (goroutines × {Compile with/without
regex groups, Run shared/private} under `go build -race`, every result compared with its
sequential value).
-/
namespace Vore.Props.C19
open Vore.Sched Vore.ExtractedGlobals

/-- **C19 (model).**  `P t` is the code of thread `t` (any number of threads, any length),
`acc0 t` its arguments, `store0` the initial shared store, `s` ANY schedule.  If threads only
unlock what they hold and every shared location that is written at all is confined to one
thread or protected by one mutex (`LockProtected`: every access holds it, and reads are either
blind or preceded by the reader's own write in the same critical section), then

1. every thread's accumulator is what its own first `pc` actions compute alone,
2. in particular a thread that has finished holds its sequential result, and
3. no two conflicting accesses of the trace are unordered by happens-before. -/
theorem C19_noninterference (P : Tid → List Action) (acc0 : Tid → Sched.Val) (store0 : Loc → Sched.Val)
    (hlocks : WellLocked P)
    (hdisc : ∀ g, Written P g → Confined P g ∨ LockProtected P g)
    (s : List Tid) :
    (∀ t, (exec P (init acc0 store0) s).acc t
        = (seqAt (P t) ⟨acc0 t, store0⟩ ((exec P (init acc0 store0) s).pc t)).acc) ∧
    (∀ t, (exec P (init acc0 store0) s).pc t = (P t).length →
        (exec P (init acc0 store0) s).acc t = (seqRun (P t) ⟨acc0 t, store0⟩).acc) ∧
    RaceFree (exec P (init acc0 store0) s).trace := by
  obtain ⟨hres, hrace⟩ := inv_exec P acc0 store0 hlocks hdisc s
  refine ⟨hres.acc, ?_, hrace.rf⟩
  intro t hfin
  rw [hres.acc t, own, hfin, seqAt_length]

/-! ### non-vacuity of `C19_noninterference`

Three threads: two draw from a lock-protected source and work on their own memory, one only
reads shared read-only code.  The hypotheses hold, and a schedule runs all of them to the end
with a genuinely interleaved trace. -/

def demoThread (t : Tid) : List Action :=
  [.lock randMutex, .rmw .randSrc (· + 1), .unlock randMutex,
   .read (.code 0) (fun a v => a + v), .write (.priv t 0) (fun a => a * 2),
   .read (.priv t 0) (fun _ v => v + 1)]

def demoP : Tid → List Action := fun t => if t < 3 then demoThread t else []

/-- the entries at positions 1 and 5 (from 0) name a thread that is blocked on the held mutex (no-ops) -/
def demoSchedule : List Tid := [0, 1, 0, 0, 1, 2, 1, 1, 2, 2, 2, 0, 1, 2, 0, 1, 2, 0, 1, 2]

theorem demo_goCalls (cls : List GClass) : GoCalls cls demoP := by
  refine goCalls_below fun t => ?_
  simp only [demoThread, forall_getElem?_cons]
  -- action by action: `True`, `t = t`, or `heldAt` evaluated along the program
  exact ⟨trivial, rfl, rfl, trivial, rfl, rfl, nofun⟩

/-- the schedule finishes all three threads (so conclusion 2 is not vacuous) and the lock was
really contended for: thread 1 acquires it after thread 0 released it -/
example :
    (∀ t, t < 3 → (exec demoP (init (fun t => t) (fun _ => 5)) demoSchedule).pc t = (demoP t).length) ∧
    (exec demoP (init (fun t => t) (fun _ => 5)) demoSchedule).acc 1 = 13 ∧
    (exec demoP (init (fun t => t) (fun _ => 5)) demoSchedule).store .randSrc = 8 ∧
    races (exec demoP (init (fun t => t) (fun _ => 5)) demoSchedule).trace = [] := by
  decide +kernel

/-- **Obligation (regenerated facts): the parser's state is lock protected** (no class is `free`;
confinement to one thread, `Confined` in the model, is not what this says).
Every package-level variable of the libvore packages that a function reachable from `Compile`,
`CompileFile`, `Run` or `RunFiles` assigns, increments or takes the address of is `locked`:
all functions touching it hold one package mutex for their whole body (`M.Lock(); defer
M.Unlock()` first) or are reachable from the entry points only through such a function, its
address is never taken, and every holder assigns it before anything else can read it.
Checked by evaluation on `Vore/ExtractedGlobals.lean`, which is regenerated from /repo before
every build.  At the pinned commit `ast.capture_group_number` is written by `parse` and
`parse_regexp_groups` with no mutex: `goClasses = [free]` and this fails. -/
theorem parser_state_confined : ∀ c ∈ goClasses, c ≠ GClass.free := by decide +kernel

/-- **Obligation (regenerated facts).**  A call is a single thread of control: no function
reachable from the entry points contains a `go` statement. -/
theorem calls_are_single_threads : goFacts.spawners = [] := by decide +kernel

/-! ### the decision procedure behind `parser_state_confined` discriminates

Small fact bases (function 0 = `Compile` calls 1 = `parse`, which calls 2 = `parse_regexp_groups`;
variable 0 is a mutex, variable 1 the counter written by 1 and 2 and read by 2). -/

def toyGlobals : List GoGlobal :=
  [{ pkg := "ast", name := "parseMutex", typ := "sync.Mutex", scalar := false, isMutex := true, initialised := false,
     file := "", line := 0, assignedBy := [], incrementedBy := [], addrTakenBy := [], readBy := [1] },
   { pkg := "ast", name := "capture_group_number", typ := "int", scalar := true, isMutex := false, initialised := true,
     file := "", line := 0, assignedBy := [1, 2], incrementedBy := [2], addrTakenBy := [], readBy := [2] }]

/-- no holder (`parse` without the mutex) — the counter is `free` -/
example : ({ calls := [[1], [2], []], entries := [0], globals := toyGlobals, holders := [], initFirst := [],
             goStmts := [] } : Facts).classes = [.free] := by decide +kernel

/-- `parse` holds the mutex and resets the counter first — `locked` -/
example : ({ calls := [[1], [2], []], entries := [0], globals := toyGlobals, holders := [(1, 0)],
             initFirst := [(1, 1)], goStmts := [] } : Facts).classes = [.locked 1] := by decide +kernel

/-- a second path to `parse_regexp_groups` that does not go through the holder — `free` -/
example : ({ calls := [[1, 2], [2], []], entries := [0], globals := toyGlobals, holders := [(1, 0)],
             initFirst := [(1, 1)], goStmts := [] } : Facts).classes = [.free] := by decide +kernel

/-- the holder does not reset the counter before use — `free` -/
example : ({ calls := [[1], [2], []], entries := [0], globals := toyGlobals, holders := [(1, 0)],
             initFirst := [], goStmts := [] } : Facts).classes = [.free] := by decide +kernel

/-- a variable written only by an unreachable function is not a shared location at all -/
example : ({ calls := [[], [2], []], entries := [0], globals := toyGlobals, holders := [],
             initFirst := [], goStmts := [] } : Facts).classes = [] := by decide +kernel

/-- a reachable `go` statement is reported -/
example : ({ calls := [[1], [2], []], entries := [0], globals := [], holders := [],
             initFirst := [], goStmts := [2] } : Facts).spawners = [2] := by decide +kernel

/-- on the real call graph the reachability computation is not degenerate: far more functions
than the entry points are reachable, and it reaches a fixed point within its fuel -/
example :
    (sweeps goCalls 0 (goCalls.length + 1) (bitsOf goEntries)).2 = true ∧
    goEntries.length + 100 <
      ((List.range goCalls.length).filter (sweeps goCalls 0 (goCalls.length + 1) (bitsOf goEntries)).1.testBit).length := by
  decide +kernel

/-- **Obligation.**  The compiled program shared by all `Run` calls on one `*Vore` is
read-only at run time:

* extracted: no function of package `engine` assigns through a value whose declared type comes
  from package `bytecode` or `ast` (`goCodeWrites` is empty);
* model: a `Compile`/`Run` call never writes a `code` location.

In the Lean VM model this holds by construction — by typing: the program is an *argument* of
`Vore.step` / `Vore.run` (see the signature check below) and neither `VMState` nor `Outcome`
has a component of type `List Instr`, so a run cannot return, let alone change, its program. -/
theorem bytecode_readonly_at_run :
    goCodeWrites.length = 0 ∧
    ∀ (cls : List GClass) (P : Tid → List Action), GoCalls cls P → ∀ k, ¬ Written P (.code k) :=
  ⟨by decide, fun _ _ h k => h.not_written_code k⟩

/-- signature check for the remark above: program in, outcome out -/
example : Nat → List Vore.Instr → Vore.Bytes → Nat → Vore.VMState → Option Vore.Outcome := Vore.run
example : Nat → List Vore.Instr → Vore.Bytes → Vore.VMState → Vore.Step := Vore.step

/-- **C19 for Compile/Run (over the extracted facts).**  Any family of concurrent calls whose
shared accesses are those the current Go source leaves possible (`GoCalls goClasses`: the
written package-level variables are accessed as their extracted protection class says — and by
`parser_state_confined` none of them is unprotected), under every schedule: results equal
sequential results, no unordered conflicting accesses. -/
theorem C19_compile_run (P : Tid → List Action) (acc0 : Tid → Sched.Val) (store0 : Loc → Sched.Val)
    (hgo : GoCalls goClasses P) (s : List Tid) :
    (∀ t, (exec P (init acc0 store0) s).pc t = (P t).length →
        (exec P (init acc0 store0) s).acc t = (seqRun (P t) ⟨acc0 t, store0⟩).acc) ∧
    RaceFree (exec P (init acc0 store0) s).trace := by
  obtain ⟨hwl, hdisc⟩ := goCalls_discipline goClasses parser_state_confined P hgo
  exact (C19_noninterference P acc0 store0 hwl hdisc s).2

/-- non-vacuity of `C19_compile_run`: the demo threads are such calls -/
example : GoCalls goClasses demoP := demo_goCalls goClasses

/-! ### the fixed parser: the counter under the package mutex

`parse` after the fix: lock, reset the counter, (read, increment, read back) per group,
unlock.  Two such calls plus a `Run`-like reader, `global 0` being `locked 1`. -/

def parseLocked : List Action :=
  [.lock 1,
   .write (.global 0) (fun _ => 0),          -- capture_group_number = 0
   .read (.global 0) (fun _ v => v),         -- tmp := capture_group_number
   .write (.global 0) (fun a => a + 1),      -- capture_group_number = tmp + 1
   .read (.global 0) (fun _ v => v),         -- name the group "_<capture_group_number>"
   .unlock 1]

def lockedP : Tid → List Action := fun t => if t < 2 then parseLocked else []

theorem locked_goCalls : GoCalls [.locked 1] lockedP := by
  refine goCalls_below fun t => ?_
  simp only [parseLocked, forall_getElem?_cons]
  exact ⟨trivial, rfl, ⟨rfl, rfl⟩, rfl, ⟨rfl, rfl⟩, rfl, nofun⟩

/-- the hypotheses of `C19_noninterference` hold for the locked parser (so they are
satisfiable with a location that is written, read into results and shared), and in a schedule
where thread 1 keeps trying while thread 0 is inside, both name their group `_1` -/
example :
    (WellLocked lockedP ∧ ∀ g, Written lockedP g → Confined lockedP g ∨ LockProtected lockedP g) ∧
    (exec lockedP (init (fun _ => 0) (fun _ => 7)) [0, 1, 0, 1, 0, 0, 1, 0, 0, 1, 1, 1, 1, 1, 1]).acc 0 = 1 ∧
    (exec lockedP (init (fun _ => 0) (fun _ => 7)) [0, 1, 0, 1, 0, 0, 1, 0, 0, 1, 1, 1, 1, 1, 1]).acc 1 = 1 ∧
    (exec lockedP (init (fun _ => 0) (fun _ => 7)) [0, 1, 0, 1, 0, 0, 1, 0, 0, 1, 1, 1, 1, 1, 1]).pc 1 = 6 ∧
    races (exec lockedP (init (fun _ => 0) (fun _ => 7)) [0, 1, 0, 1, 0, 0, 1, 0, 0, 1, 1, 1, 1, 1, 1]).trace = [] :=
  ⟨goCalls_discipline [.locked 1] (by decide) lockedP locked_goCalls, by decide +kernel⟩

/-! ## the theorem can fail: one unprotected package-level counter

`ast.parse` before the fix: `capture_group_number = 0`, then for each regex group
`capture_group_number += 1` (a read and a write) and the group is named after the value read
back.  `global 0` is that counter. -/

/-- parse of a source with one regex group; the result (`acc`) is the group's number -/
def parseOneGroup : List Action :=
  [.write (.global 0) (fun _ => 0),          -- capture_group_number = 0
   .read (.global 0) (fun _ v => v),         -- tmp := capture_group_number
   .write (.global 0) (fun a => a + 1),      -- capture_group_number = tmp + 1
   .read (.global 0) (fun _ v => v)]         -- name the group "_<capture_group_number>"

def counterP : Tid → List Action := fun t => if t < 2 then parseOneGroup else []

/-- thread 0 resets; thread 1 resets, reads and increments; thread 0 reads the counter thread 1
has already incremented, increments it again and names its group; thread 1 names its group -/
def counterSchedule : List Tid := [0, 1, 1, 1, 0, 0, 0, 1]

/-- these two threads are `GoCalls [free]` — with one unprotected written package-level
variable the model allows them — and they do not satisfy the discipline -/
theorem counter_goCalls : GoCalls [.free] counterP := by
  refine goCalls_below fun t => ?_
  simp only [parseOneGroup, forall_getElem?_cons]
  exact ⟨trivial, trivial, trivial, trivial, nofun⟩

/-- **The negation for the unfixed code.**  Both threads finish; alone each would name its
group `_1`; in this schedule thread 0 names it `_2` (thread 1's increment landed between thread
0's reset and thread 0's own increment), and the trace contains two
conflicting accesses not ordered by happens-before. -/
theorem C19_shared_counter_interferes :
    let σ := exec counterP (init (fun _ => 0) (fun _ => 0)) counterSchedule
    (∀ t, t < 2 → σ.pc t = (counterP t).length) ∧
    (seqRun (counterP 0) ⟨0, fun _ => 0⟩).acc = 1 ∧
    σ.acc 0 ≠ (seqRun (counterP 0) ⟨0, fun _ => 0⟩).acc ∧
    ¬ RaceFree σ.trace := by
  refine ⟨by decide, by decide, by decide, ?_⟩
  · intro hrf
    -- positions 0 (thread 0 resets the counter) and 1 (thread 1 resets it)
    have hb := hrf 0 1 ⟨0, .wr (.global 0)⟩ ⟨1, .wr (.global 0)⟩ (by decide) (by decide) (by decide)
      ⟨by decide, .global 0, rfl, rfl, Or.inl rfl⟩
    have hall : ((exec counterP (init (fun _ => 0) (fun _ => 0)) counterSchedule).trace.all
        fun e => match e.kind with | .rel _ => false | _ => true) = true := by decide
    refine absurd (HB_same_thread (fun e he m hk => ?_) hb) (by decide)
    have := List.all_eq_true.1 hall e he
    simp [hk] at this

/-- the executable race check agrees on the witness (and names the unordered pairs) -/
example : (races (exec counterP (init (fun _ => 0) (fun _ => 0)) counterSchedule).trace).length ≠ 0 := by decide +kernel

end Vore.Props.C19

#print axioms Vore.Props.C19.C19_noninterference
#print axioms Vore.Props.C19.parser_state_confined
#print axioms Vore.Props.C19.calls_are_single_threads
#print axioms Vore.Props.C19.bytecode_readonly_at_run
#print axioms Vore.Props.C19.C19_compile_run
#print axioms Vore.Props.C19.C19_shared_counter_interferes

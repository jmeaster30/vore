import Vore.Props.C01
import Vore.Lemmas.Ds
/-!
# C02 — Captured variables are exactly the bindings of the successful path

The specification threads bindings as *values* along each path: a binding made inside an
alternative, loop iteration or optional group exists only in the data handed to that path's
continuation; when the path is abandoned the next alternative starts from the data *before* it.
`C02_bindings` says the VM reports exactly those bindings; the three lemmas spell out what the
specification's bindings are.
-/
namespace Vore
open Vore.Spec

/-- the variables reported with each match are those of the specification's successful path
(call-free fragment: captures under alternation, optional/repeated groups) -/
theorem C02_bindings (text : Bytes) (e : Expr) (hcf : CallFree e) (nid : Nat) (hne : codeLen e ≠ 0) :
    ∃ A, findAll text e = some A ∧
      ∀ pf, ∃ vf0, ∀ vf, vf0 ≤ vf → ∃ R, findMatches pf vf (genCF e 0 nid).1 ⟨true, 0, 0, 0⟩ text = some (.ok R) ∧
        R.map (·.vars) = A.map (·.vars) ∧ R.map (·.value) = A.map (·.value) := by
  obtain ⟨A, hA, h⟩ := C01_refines_partial text e hcf nid hne
  refine ⟨A, hA, fun pf => ?_⟩
  obtain ⟨vf0, hv⟩ := h pf
  exact ⟨vf0, fun vf hle => ⟨A, window_amtAll A ▸ hv vf hle ⟨true, 0, 0, 0⟩, rfl, rfl⟩⟩

/-- the same through subroutines, recursion and global patterns (stage 2): whenever the specification of
the resolved program answers, the variables and values the VM reports are exactly the specification's -/
theorem C02_bindings_calls (G : GEnv) (e : Expr) (r : RExpr) (hr : resolveBody G e = some r)
    (hG : WfG G) (he : WfE e) (hne : lenR r ≠ 0)
    (text : Bytes) (pf cf nid : Nat) (A : List Match) (hA : findAllR text pf cf r = some A) :
    ∃ vf0, ∀ vf, vf0 ≤ vf → ∃ R, findMatches pf vf (genBody r nid).1 ⟨true, 0, 0, 0⟩ text = some (.ok R) ∧
      R.map (·.vars) = A.map (·.vars) ∧ R.map (·.value) = A.map (·.value) := by
  obtain ⟨vf0, hv⟩ := C01_refines_calls_source G e r hr hG he hne text pf cf nid A hA
  exact ⟨vf0, fun vf hle => ⟨A, window_amtAll A ▸ hv vf hle ⟨true, 0, 0, 0⟩, rfl, rfl⟩⟩

/-- `= name` binds exactly the text consumed by its body on this path, in the data passed on -/
theorem C02_capture_value (text : Bytes) (lf : Nat) (x : String) (body : Expr) (d : Data) (ks : SK) (fk : FK) :
    m text lf (.dec x body) d ks fk =
      m text lf body d (fun d' fk' => ks { d' with env := d'.env.put x (.str (d'.cur.drop d.cur.length)) } fk') fk := rfl

/-- an abandoned alternative leaves nothing behind: the next alternative starts from the data
(position *and bindings*) the first one started from -/
theorem C02_alternative_isolated (text : Bytes) (lf : Nat) (l r : Expr) (d : Data) (ks : SK) (fk : FK) :
    m text lf (.branch l r) d ks fk = m text lf l d ks (fun _ => m text lf r d ks fk) := rfl

/-- a back-reference matches exactly the text currently bound to its name: it succeeds iff the name
is bound to a string `v` and the input continues with `v` (the empty string always does), and then
consumes exactly `v` -/
theorem C02_backref (text : Bytes) (x : String) (d d' : Data) :
    backrefD text x d = some d' ↔
      ∃ v, d.env.get x = some (.str v) ∧
        ((v = [] ∧ d' = d) ∨ (v ≠ [] ∧ readAt text d.pos v.length = v ∧ d' = consumeD text d v.length)) :=
  backrefD_eq_some

/-- non-vacuity of `C02_backref`: an empty binding matches at end of input -/
example : backrefD [98] "x" ⟨1, 1, 2, [98], .cons "x" (.str []) .nil⟩ = some ⟨1, 1, 2, [98], .cons "x" (.str []) .nil⟩ := by
  rfl


/-! ## the engine's stacks as written (libvore/ds/stack.go)

The VM model keeps the backtrack, loop, variable and call stacks as lists (top first) inside each snapshot.  The
engine keeps them in `ds.Stack` (a slice, top last) and `SearchEngineState.Copy()` copies each with `Stack.Copy()`.
`Model/Ds.lean` is that code as written: -/

/-- the slice read from the top is a list: `Push` is cons, `Peek` is the head, `Pop` returns the head and leaves the tail -/
theorem C02_stack_is_list {α : Type} (s : Ds.Stack α) (v : α) :
    (s.push v).toList = v :: s.toList ∧ s.peek = s.toList.head? ∧ s.pop.1 = s.toList.head? ∧
      s.pop.2.toList = s.toList.tail ∧ (s.push v).pop = (some v, s) :=
  ⟨Ds.toList_push s v, Ds.peek_toList s, (Ds.pop_toList s).1, (Ds.pop_toList s).2, Ds.pop_push s v⟩

/-- `Copy()` (a new stack, every value pushed in order) holds the same values; being a value of its own here, a later
push on the copy cannot reach the original — what the correspondence checks on the real slice (`SOp.copyThenPush`) -/
theorem C02_stack_copy {α : Type} (s : Ds.Stack α) (v : α) : s.copy = s ∧ (s.copy.push v).pop.2 = s :=
  ⟨Ds.copy_eq s, by rw [Ds.copy_eq, Ds.pop_push]⟩

example : ((Ds.Stack.new : Ds.Stack Nat).push 1 |>.push 2).toList = [2, 1] := by decide

#print axioms C02_bindings
#print axioms C02_bindings_calls
#print axioms C02_capture_value
#print axioms C02_alternative_isolated
#print axioms C02_backref
#print axioms C02_stack_is_list
#print axioms C02_stack_copy

end Vore

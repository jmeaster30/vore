import Vore.Lemmas.JsonWF
/-!
# C17 — JSON output is valid and carries the match data unchanged

Property theorems only.  They are about the JSON *tree* the repo's marshalling code builds
(`Json.ofMatches`, transcribed from `Match.MarshalJSON`, `Range.MarshalJSON`,
`ValueString/ValueHashMap.MarshalJSON`): for **every** list of matches (any length, find or
replace, variables nested to any depth) a reader of that tree gets back exactly the in-memory
matches.  `encoding/json` (escaping, indentation, key order, U+FFFD for invalid UTF-8) is a
parameter (`Codec`) whose contract (`Codec.Faithful`) is assumed here and exercised by the
correspondence run; it is **not** proved.  The compact and the formatted rendering are two
printers applied to the same tree.
-/
namespace Vore
open Json

/-- Decoding the tree of any result list gives back the list: one object per match, every
member (filename, matchNumber, offset, line, column, value, replacement, variables — nested
maps to any depth) equal to the in-memory match.  No hypothesis. -/
theorem C17_tree (ms : List FileMatch) : decodeMatches (ofMatches ms) = some ms := by
  simp [ofMatches, decodeMatches, Json.decodeList_ofList]

/-- The `replacement` member is present iff the match has a replacement (replace commands),
and then it is that string. -/
theorem C17_replacement_key (fm : FileMatch) :
    ((ofMatch fm).member? "replacement").isSome = fm.m.replacement.isSome ∧
    (ofMatch fm).member? "replacement" = fm.m.replacement.map Json.str :=
  ⟨by rw [Json.replacement_member, Option.isSome_map], Json.replacement_member fm⟩

/-- A match object has exactly the documented members, in the order of the assignments in
`Match.MarshalJSON` (`encoding/json` prints a map's keys sorted; the tree does not care). -/
theorem C17_members (fm : FileMatch) :
    (matchFields fm).keys =
      if fm.m.replacement.isSome then
        ["filename", "matchNumber", "offset", "line", "column", "value", "replacement", "variables"]
      else ["filename", "matchNumber", "offset", "line", "column", "value", "variables"] := by
  rw [Json.matchFields_eq]; cases fm.m.replacement <;> simp [JFields.keys]

/-- Every object of the tree is a finite map (no member name twice) as long as the variable
maps are (`VMap.WF`) — which the engine guarantees because it only ever extends them with
`ValueHashMap.Add` (`VMap.put`, see `C17_put_wf`). -/
theorem C17_wellformed (ms : List FileMatch) (h : ∀ fm ∈ ms, fm.m.vars.WF) : (ofMatches ms).WF := by
  simp [ofMatches, Json.WF, Json.wf_ofList ms h]

/-- `ValueHashMap.Add` keeps a variable map a finite map; the empty map is one. -/
theorem C17_put_wf (f : VMap) (k : String) (v : Val) (hf : f.WF) (hv : v.WF) :
    (f.put k v).WF ∧ VMap.nil.WF :=
  ⟨VMap.wf_put hf hv k, VMap.wf_nil⟩

/-- … and the engine does guarantee it: for every instruction list, text, file name and
fuel, the variables of every match `runProgram` (`engine.Run`) returns are finite maps at
every depth (`WInv`, kept by every VM instruction and in every saved state: `WInv.preserved`, Lemmas/JsonWF.lean),
so every object of the rendered tree has pairwise distinct member names. -/
theorem C17_engine_results_wellformed (pf vf : Nat) (fn text : Bytes) (cs : List BCmd) (ms : List Match)
    (h : runProgram pf vf fn text cs = some (.ok ms)) :
    (ofMatches (ms.map (fun m => (⟨fn, m⟩ : FileMatch)))).WF := by
  apply C17_wellformed
  intro fm hfm
  obtain ⟨m, hm, rfl⟩ := List.mem_map.mp hfm
  exact runProgram_wf pf vf fn text cs ms h m hm

/-- The two renderings are printings of one tree: whatever faithful printer/reader pair
`encoding/json` is, reading `Matches.Json()` and reading `Matches.FormattedJson()` give the
same document, and that document decodes to the in-memory matches (strings as
`encoding/json` coerces them: invalid UTF-8 bytes become U+FFFD). -/
theorem C17_documents {D : Type} (c : Codec D) (hc : c.Faithful) (ms : List FileMatch) :
    c.parse (matchesJson c ms) = c.parse (matchesFormattedJson c ms) ∧
    (c.parse (matchesJson c ms)).bind decodeMatches = some (ms.map FileMatch.coerce) := by
  have h := hc (ofMatches ms)
  simp only [matchesJson, matchesFormattedJson, h.1, h.2, true_and]
  simp [Json.coerce_ofMatches, C17_tree]

/-- … and when every string of the matches is unchanged by the coercion (valid UTF-8; in
particular ASCII, `utf8Fix_ascii`) the decoded document is exactly the in-memory list. -/
theorem C17_documents_exact {D : Type} (c : Codec D) (hc : c.Faithful) (ms : List FileMatch)
    (hv : ∀ fm ∈ ms, fm.coerce = fm) :
    (c.parse (matchesJson c ms)).bind decodeMatches = some ms ∧
    (c.parse (matchesFormattedJson c ms)).bind decodeMatches = some ms := by
  have e : ms.map FileMatch.coerce = ms := (List.map_congr_left (g := id) hv).trans (List.map_id ms)
  have h := C17_documents c hc ms
  rw [← h.1, h.2, e]; exact ⟨rfl, rfl⟩

/-- a find match with a nested (named-loop) variable map and a replace match -/
def C17_sample : List FileMatch :=
  [ ⟨[116], { number := 1, startPos := 0, endPos := 2, startLine := 1, endLine := 1, startCol := 1, endCol := 3,
              value := [97, 97],
              vars := .cons "lp" (.map (.cons "0" (.map (.cons "x" (.str [97]) .nil))
                                         (.cons "1" (.map (.cons "x" (.str [97]) .nil)) .nil))) .nil }⟩,
    ⟨[116], { number := 2, startPos := 3, endPos := 4, startLine := 2, endLine := 2, startCol := 1, endCol := 2,
              value := [34], vars := .nil, replacement := some [92] }⟩ ]

example : ∀ fm ∈ C17_sample, fm.m.vars.WF := by
  simp [C17_sample, VMap.WF, Val.WF, VMap.get]

example : ∀ fm ∈ C17_sample, fm.coerce = fm := by
  simp [C17_sample, FileMatch.coerce, VMap.coerce, Val.coerce, utf8Fix, utf8FixAux]

/-- a faithful codec exists (the document is the tree itself plus the layout flag) -/
def C17_trivialCodec : Codec (Json × Bool) :=
  { compact := fun j => (j, false), indented := fun j => (j, true), parse := fun d => some d.1.coerce }

example : C17_trivialCodec.Faithful := fun _ => ⟨rfl, rfl⟩

/-- `find all 'a' = x` on the text `a`: the hypothesis of `C17_engine_results_wellformed` is satisfiable -/
example : ∃ ms, runProgram 10 100 [116] [97]
    [.find ⟨true, 0, 0, 0⟩ [.startVar "x", .lit false false [97], .endVar "x"]] = some (.ok ms) ∧ ms.length = 1 := by
  refine ⟨_, rfl, rfl⟩

example : (VMap.nil.put "a" (.str [1])).WF ∧ (Val.str [1]).WF := by
  simp [VMap.put, VMap.WF, Val.WF, VMap.get]

end Vore

#print axioms Vore.C17_tree
#print axioms Vore.C17_replacement_key
#print axioms Vore.C17_members
#print axioms Vore.C17_wellformed
#print axioms Vore.C17_put_wf
#print axioms Vore.C17_engine_results_wellformed
#print axioms Vore.C17_documents
#print axioms Vore.C17_documents_exact

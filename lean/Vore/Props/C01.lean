import Vore.Lemmas.SimTop
import Vore.Lemmas.SpecTotal
import Vore.Lemmas.GenLink
import Vore.Model.Engine
import Vore.Lemmas.ResolveWF
import Vore.Lemmas.Outs
import Vore.Lemmas.GenTwoPass
/-!
# C01 — Find results equal the backtracking semantics of the pattern as written

`Spec.findAll text e` (Vore/Spec/Search.lean) is the property's scan: at each start position from
left to right the *first complete match in priority order* (earlier alternative first, greedy
quantifiers longest first, `fewest` shortest first), non-empty matches reported and skipped over.

Proved here, for **all** programs of the call-free fragment — string literals, `not`, `caseless`,
character classes, file/line/word anchors, `in` / `not in` lists and ranges, maybe / at least / at most
/ between / exactly loops greedy and `fewest`, `or`, groups, captures and back-references — and
**all** inputs: the VM running the generated bytecode returns exactly the specification's matches
(offsets, lines, columns, values *and variables*), under every amount clause; and it terminates.
The proof is a simulation by induction on the syntax tree (Lemmas/SimR.lean): offset arithmetic of the
generator, the checkpoint stack as priority order, the loop-stack protocol with its zero-width guard,
the stack discipline of captures.  It is carried out once, for the resolved core language of stage 2; the
call-free fragment is a sublanguage of it (Lemmas/Unroll.lean: `genCF e = genR (unroll e)`,
`Spec.m e = mrWith (unroll e)`), so the statements of stage 1 are instances.

Stage 2 (`C01_refines_calls`): the whole quantifier of the property — inline subroutines including
recursion, `set .. to pattern` with and without predicate — for the *two-pass* reading of the
generator (`Spec.resolveN`: resolve names and unroll; `genBody`: emit; its bytecode is compared with the
real generator's on every correspondence case): whenever the specification `Spec.findAllR` answers
within a call-depth bound, the VM returns exactly its matches under every amount clause.
(Conditional: unguarded recursion has no answer.)  The regular-expression reading of the property's
second sentence is C14's.
-/
namespace Vore
open Vore.Spec

/-- one attempt: whatever the specification's first-match semantics answers at a start position,
the VM answers (with some fuel), for every call-free pattern -/
theorem C01_attempt (pf : Nat) (text : Bytes) (lf : Nat) (e : Expr) (hcf : CallFree e) (nid pos line col : Nat)
    (r : SRes) (h : attempt text lf e pos line col = some r) :
    ∃ n o, run pf (genCF e 0 nid).1 text n (initState pos line col) = some o ∧ outcomeRes o = some r :=
  attempt_sim pf text lf e hcf nid pos line col r h

/-- the generated code of a call-free pattern is `genCF` (offset arithmetic as a pure function) -/
theorem C01_generated (e : Expr) (hcf : CallFree e) (off : Nat) (st st' : GenState) (code : List Instr)
    (hs : ScopeOK st) (h : gen e off st = .ok (code, st')) : code = (genCF e off st.nextId).1 :=
  (gen_eq_genCF e hcf off st code st' hs h).1

/-- **C01 on the call-free fragment.**
For every call-free body and every input there is a match list `A` — the specification's — such that,
given enough VM fuel, `findMatches` under every amount tuple returns the window of `A`.
In particular the search terminates and never panics. -/
theorem C01_refines_partial (text : Bytes) (e : Expr) (hcf : CallFree e) (nid : Nat) (hne : codeLen e ≠ 0) :
    ∃ A, findAll text e = some A ∧
      ∀ pf, ∃ vf0, ∀ vf, vf0 ≤ vf → ∀ amt,
        findMatches pf vf (genCF e 0 nid).1 amt text = some (.ok (window amt A)) := by
  obtain ⟨A, hA, _⟩ := findAll_answers text e
  exact ⟨A, hA, fun pf => findMatches_spec pf text e hcf nid hne A hA⟩

/-- the same for a compiled `find` command: `genCmd` output, run by `runCmd` -/
theorem C01_find_command (text fn : Bytes) (amt : Amount) (e : Expr) (hcf : CallFree e) (hne : codeLen e ≠ 0)
    (st st' : GenState) (hg : st.globals = []) (c : BCmd) (h : genCmd (.find amt e) st = .ok (c, st')) :
    ∃ A, findAll text e = some A ∧
      ∀ pf, ∃ vf0, ∀ vf, vf0 ≤ vf → runCmd pf vf fn text c = some (.ok (window amt A)) := by
  obtain ⟨⟨code, _⟩, hgen, h⟩ := GenM.bind_ok h
  cases h
  have hs : ScopeOK { st with variables := [] } := ⟨hg, fun kv hkv => by simp at hkv⟩
  have hcode := C01_generated e hcf 0 _ st' code hs hgen
  obtain ⟨A, hA, hrest⟩ := C01_refines_partial text e hcf st.nextId hne
  refine ⟨A, hA, fun pf => ?_⟩
  obtain ⟨vf0, hv⟩ := hrest pf
  refine ⟨vf0, fun vf hle => ?_⟩
  simp only [runCmd, hcode]
  exact hv vf hle amt

/-- **C01 with subroutines and global patterns.**  `G` are the global patterns in scope (most recent
first), `e` a command body.  If name resolution accepts it as `r` (with pairwise distinct subroutine
ids and non-empty `in` lists — both are what resolution and the parser produce; the compiled driver
re-checks them on every correspondence case) and the specification answers `A` within call depth `cf`,
then, given enough VM fuel, `findMatches` on the generated code returns the window of `A` under every
amount tuple.  The proof does not use `hr` (nor `G`, `e`): it holds of every `r` with these two properties. -/
theorem C01_refines_calls (G : GEnv) (e : Expr) (r : RExpr) (hr : resolveBody G e = some r)
    (hu : UniqueSubs r) (hwf : WfR r) (hne : lenR r ≠ 0)
    (text : Bytes) (pf cf nid : Nat) (A : List Match) (hA : findAllR text pf cf r = some A) :
    ∃ vf0, ∀ vf, vf0 ≤ vf → ∀ amt, findMatches pf vf (genBody r nid).1 amt text = some (.ok (window amt A)) := by
  have _ := hr
  exact findMatches_genBody pf text cf r nid hu hwf hne A hA

/-- **the specification read declaratively**: `Spec.outs` lists, without continuations or program counters,
all ways a pattern can match from a position, in priority order (earlier alternative first, greedy loops longest
first, `fewest` loops shortest first, an optional iteration that consumes nothing discarded); the specification
the VM is proved against, `Spec.findAll`, is the left-to-right scan that takes, at each start position, the HEAD of
that list — "the first complete match in priority order" -/
theorem C01_spec_is_first_of_all_matches (text : Bytes) (e : Expr) (hcf : CallFree e) :
    findAll text e = Spec.findAllDecl text e ∧
    ∀ pos line col, pos ≤ text.length →
      attempt text (text.length + 2) e pos line col =
        some (match outs text (text.length + 2) e ⟨pos, line, col, [], .nil⟩ with
              | d :: _ => .matched d
              | [] => .fail) :=
  ⟨findAll_eq_decl text e, fun pos line col hpos => attempt_eq_head text _ (by omega) e pos line col hpos⟩

/-- non-vacuity / reading aid: all matches of `('a' or 'ab') maybe 'b'` at the start of `abb`, in priority
order: the first alternative with and without the (greedy) `b`, then the second alternative likewise — `ab`, `a`,
`abb`, `ab`; evaluated by the kernel -/
example : (outs [97, 98, 98] 5 (.seq (.branch (.atom (.str false false [97])) (.atom (.str false false [97, 98])))
      (.seq (.loop 0 1 false "" (.atom (.str false false [98]))) .empty)) ⟨0, 1, 1, [], .nil⟩).map (·.cur) =
    [[97, 98], [97], [97, 98, 98], [97, 98]] := by decide

/-- the same with hypotheses on the *source* only: every program the resolver accepts has pairwise
distinct subroutine ids (`resolveBody_unique`), and `in` lists are copied unchanged, so it is enough that
the source — the command body and the global patterns in scope — has no empty `in` list (`WfE`, `WfG`:
what the parser guarantees) -/
theorem C01_refines_calls_source (G : GEnv) (e : Expr) (r : RExpr) (hr : resolveBody G e = some r)
    (hG : WfG G) (he : WfE e) (hne : lenR r ≠ 0)
    (text : Bytes) (pf cf nid : Nat) (A : List Match) (hA : findAllR text pf cf r = some A) :
    ∃ vf0, ∀ vf, vf0 ≤ vf → ∀ amt, findMatches pf vf (genBody r nid).1 amt text = some (.ok (window amt A)) :=
  C01_refines_calls G e r hr (resolveBody_unique G e r hr) (resolveBody_wf G e r hG he hr) hne text pf cf nid A hA

/-- stage 2 for the ONE-PASS generator (`Vore.gen`, the instruction-for-instruction transcription of generate.go
whose output the correspondence run compares with the real bytecode on every case): for a find command whose body
uses inline subroutines (recursion included) but no `set … to pattern`, whenever the specification of the resolved
body answers, the code that `genCmd` emits makes the VM return exactly the specification's matches under the
command's amount clause.  (`gen_eq_genBody`: on such bodies the one-pass generator emits the two-pass code.) -/
theorem C01_refines_calls_one_pass (amt : Amount) (e : Expr) (r : RExpr) (hr : resolveBody [] e = some r)
    (he : WfE e) (hne : lenR r ≠ 0) (st : GenState) (hg : st.globals = [])
    (text : Bytes) (pf cf : Nat) (A : List Match) (hA : findAllR text pf cf r = some A) :
    ∃ code st', genCmd (.find amt e) st = .ok (.find amt code, st') ∧
      ∃ vf0, ∀ vf, vf0 ≤ vf → ∀ fn, runCmd pf vf fn text (.find amt code) = some (.ok (window amt A)) := by
  obtain ⟨st', hgen⟩ := gen_eq_genBody e r hr st hg
  obtain ⟨vf0, hv⟩ := C01_refines_calls_source [] e r hr (fun _ h => by simp at h) he hne text pf cf st.nextId A hA
  refine ⟨(genBody r st.nextId).1, st', ?_, vf0, fun vf hle fn => ?_⟩
  · simp only [genCmd, bind, Except.bind, hgen, pure, Except.pure]
  · simp only [runCmd]
    exact hv vf hle amt

/-- **the two specifications agree where both apply**: for a call-free body the stage-1 specification
`Spec.findAll` (over the syntax tree as written) and the stage-2 specification `Spec.findAllR` (over the resolved,
unrolled core language) give the same matches: on a call-free body the resolver can only unroll the counted loops
(`resolveBody_unroll`), and `Spec.mrWith` on the unrolled tree is `Spec.m` on the tree as written (`findAllR_unroll`).
The VM plays no part, and neither do `he` and `hne`. -/
theorem C01_specifications_agree (e : Expr) (r : RExpr) (hcf : CallFree e) (hr : resolveBody [] e = some r)
    (he : WfE e) (hne : codeLen e ≠ 0) (text : Bytes) (pf cf : Nat) (A : List Match)
    (hA : findAllR text pf cf r = some A) : findAll text e = some A := by
  rw [resolveBody_unroll e hcf r hr, findAllR_unroll text pf cf e hcf] at hA
  exact hA

/-- the specification's own answer has the shape the property describes: its matches are non-empty, start at
increasing positions, do not overlap, are numbered consecutively, carry the text they span with its 1-based
line/column, and every captured string is a substring of the value (`Spec.faithful`, the predicate of C03) —
for the call-free specification and, whenever it answers, for the specification with subroutines -/
theorem C01_spec_matches_are_located (text : Bytes) :
    (∀ (e : Expr) (A : List Match), CallFree e → codeLen e ≠ 0 → findAll text e = some A → faithful text A = true) ∧
    (∀ (G : GEnv) (e : Expr) (r : RExpr) (pf cf : Nat) (A : List Match), resolveBody G e = some r → WfG G → WfE e →
      lenR r ≠ 0 → findAllR text pf cf r = some A → faithful text A = true) := by
  refine ⟨fun e A hcf hne hA => ?_, fun G e r pf cf A hr hG he hne hA => ?_⟩
  · rw [← findAllR_unroll text 0 0 e hcf] at hA
    exact findAllR_faithful (unroll_consistent id e 0) (unroll_wf e hcf) (by rw [lenR_unroll]; exact hne) hA
  · exact findAllR_faithful (consistent_genBody r (resolveBody_unique G e r hr)) (resolveBody_wf G e r hG he hr) hne hA

/-- non-vacuity of `C01_refines_calls`: the property's own example, a recursive subroutine inside a
global pattern: `set p to pattern {'a' maybe q 'b'} = q 'd'`, `find all p` -/
example : ∃ r, resolveBody [("p", .seq (.sub "q" (.seq (.atom (.str false false [97])) (.seq (.loop 0 1 false "" (.var "q"))
      (.seq (.atom (.str false false [98])) .empty)))) (.seq (.atom (.str false false [100])) .empty), .skip)]
      (.seq (.var "p") .empty) = some r ∧ UniqueSubs r ∧ WfR r ∧ lenR r ≠ 0 := by
  refine ⟨_, rfl, by decide, by simp [WfR, seqOf], by decide⟩

-- the specification's answer on the property's input `aabbd` (evaluated, not proved): the whole text
#eval (resolveBody [("p", .seq (.sub "q" (.seq (.atom (.str false false [97])) (.seq (.loop 0 1 false "" (.var "q"))
      (.seq (.atom (.str false false [98])) .empty)))) (.seq (.atom (.str false false [100])) .empty), .skip)]
      (.seq (.var "p") .empty)).bind (fun r => (findAllR [97, 97, 98, 98, 100] 10 8 r).map (·.map (·.value)))

/-- non-vacuity: a call-free pattern with a loop inside an alternation and a back-reference -/
example : CallFree (.seq (.dec "x" (.branch (.atom (.str false false [97])) (.loop 1 (-1) false "" (.atom (.cls false .digit)))))
    (.seq (.var "x") .empty)) ∧ codeLen (.seq (.dec "x" (.branch (.atom (.str false false [97]))
      (.loop 1 (-1) false "" (.atom (.cls false .digit))))) (.seq (.var "x") .empty)) ≠ 0 := by
  simp [CallFree, codeLen]

#print axioms C01_attempt
#print axioms C01_generated
#print axioms C01_refines_partial
#print axioms C01_find_command
#print axioms C01_refines_calls
#print axioms C01_refines_calls_source
#print axioms C01_spec_is_first_of_all_matches
#print axioms C01_refines_calls_one_pass
#print axioms C01_specifications_agree
#print axioms C01_spec_matches_are_located

end Vore

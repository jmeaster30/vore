import Vore.Lemmas.ReplaceSpec
import Vore.Props.C03
import Vore.Lemmas.MemStream
/-!
# C06 — Replace output is the exact splice; each mode touches only the file it may

`Spec.splice text ms 0` is the input with every matched span substituted by its replacement and
every other byte kept in order.  No side hypothesis on the matches: they are ordered and in range
by C03.  The file system is abstract (`FileSys`): POSIX semantics of O_TRUNC / seek+write are assumed and
exercised by the correspondence run on a real scratch directory.
-/
namespace Vore
open Vore.Spec

/-- what a replace command writes is the splice, whatever the relative lengths -/
theorem C06_splice (pf vf : Nat) (fn text : Bytes) (amt : Amount) (code : List Instr) (rep : List RInstr)
    (ms : List Match) (h : runCmd pf vf fn text (.replace amt code rep) = some (.ok ms)) :
    writtenText text ms = splice text ms 0 :=
  writtenText_eq_splice text ms (C03_command pf vf fn text _ ms h)

/-- **the in-memory output stream** (`files/memorystream.go`, `files/writer.go`, the destination of `Run` and of mode
NOTHING): the `WriteAt` calls `searchReplace` makes for ANY text and match list never hit one of the two slice panics of
`MemoryStream.Write` (the growth rule `2*(pos+len(buf))` always leaves room for the reslice), and the bytes the stream
holds afterwards are exactly the written text of `C06_splice` — the length/capacity arithmetic refines the abstract write. -/
theorem C06_memory_stream (text : Bytes) (ms : List Match) :
    ∃ s', MS.runOps MS.new ((MS.writerCalls text ms).map (fun w => MS.Op.writeAt (w.1 : Int) w.2)) = .ok s' ∧
      s'.contents = writtenText text ms ∧ s'.len ≤ s'.arr.length := by
  obtain ⟨s', h1, h2, h3⟩ := MS.runOps_writes (MS.writerCalls text ms) MS.new MS.inv_new
  exact ⟨s', h1, by rw [h3, MS.writtenText_eq_fold]; rfl, h2.1⟩

/-- … and for a replace command that ran: the stream holds the splice -/
theorem C06_memory_stream_splice (pf vf : Nat) (fn text : Bytes) (amt : Amount) (code : List Instr) (rep : List RInstr)
    (ms : List Match) (h : runCmd pf vf fn text (.replace amt code rep) = some (.ok ms)) :
    ∃ s', MS.runOps MS.new ((MS.writerCalls text ms).map (fun w => MS.Op.writeAt (w.1 : Int) w.2)) = .ok s' ∧
      s'.contents = splice text ms 0 := by
  obtain ⟨s', h1, h2, _⟩ := C06_memory_stream text ms
  exact ⟨s', h1, by rw [h2]; exact C06_splice pf vf fn text amt code rep ms h⟩

/-- no history of `Write`, `Seek` (any whence, failing ones included) and `WriteAt` with non-negative offsets panics -/
theorem C06_memory_stream_total (ops : List MS.Op)
    (hops : ∀ op ∈ ops, match op with | .writeAt off _ => 0 ≤ off | _ => True) :
    ∃ s', MS.runOps MS.new ops = .ok s' :=
  let ⟨s', h, _⟩ := MS.runOps_never_panics ops MS.new MS.inv_new hops
  ⟨s', h⟩

/-- non-vacuity: a write, a seek beyond the end, a write there (the gap reads as zero bytes), an overwrite in the middle -/
example : MS.runOps MS.new [.write [1, 2], .seek 2 2, .write [9], .writeAt 1 [7, 7]] =
    .ok ⟨[1, 7, 7, 0, 9, 0, 0, 0, 0, 0], 5, 3⟩ := by decide

/-- a negative `WriteAt` offset is the one panic there is (`panic(serr)` in `Writer.WriteAt`) -/
example : MS.runOps MS.new [.writeAt (-1) [1]] = .panic "negative result pos" := by decide

/-- NOTHING changes no file -/
theorem C06_mode_nothing (pf vf : Nat) (fs fs' : FileSys) (fn text : Bytes) (c : BCmd) (ms : List Match)
    (h : searchFile pf vf .nothing fs fn text c = some (.ok (ms, fs'))) : fs' = fs :=
  (searchFile_frame h).1 rfl

/-- NEW (re)creates only `<file>.vored`, with exactly the splice; every other path, including
the searched file, is untouched -/
theorem C06_mode_new (pf vf : Nat) (fs fs' : FileSys) (fn text : Bytes) (amt : Amount) (code : List Instr)
    (rep : List RInstr) (ms : List Match)
    (h : searchFile pf vf .new fs fn text (.replace amt code rep) = some (.ok (ms, fs'))) :
    fs'.get (fn ++ voredSuffix) = some (splice text ms 0) ∧ ∀ q, q ≠ fn ++ voredSuffix → fs'.get q = fs.get q := by
  obtain ⟨hrun, rfl⟩ := searchFile_ok h
  rw [← C06_splice pf vf fn text amt code rep ms hrun]
  exact ⟨FileSys.get_put_same, fun q hq => FileSys.get_put_other hq⟩

/-- OVERWRITE leaves exactly the splice in the searched file and touches nothing else -/
theorem C06_mode_overwrite (pf vf : Nat) (fs fs' : FileSys) (fn text : Bytes) (amt : Amount) (code : List Instr)
    (rep : List RInstr) (ms : List Match)
    (h : searchFile pf vf .overwrite fs fn text (.replace amt code rep) = some (.ok (ms, fs'))) :
    fs'.get fn = some (splice text ms 0) ∧ ∀ q, q ≠ fn → fs'.get q = fs.get q := by
  obtain ⟨hrun, rfl⟩ := searchFile_ok h
  rw [← C06_splice pf vf fn text amt code rep ms hrun]
  exact ⟨FileSys.get_put_same, fun q hq => FileSys.get_put_other hq⟩

/-- find commands never modify any file, in any mode -/
theorem C06_find_pure (pf vf : Nat) (mode : Mode) (fs fs' : FileSys) (fn text : Bytes) (amt : Amount)
    (code : List Instr) (ms : List Match)
    (h : searchFile pf vf mode fs fn text (.find amt code) = some (.ok (ms, fs'))) : fs' = fs :=
  (searchFile_ok h).2

/-- non-vacuity: shorter, longer and empty replacements -/
example : splice [97, 98, 99, 100] [{ makeMatch 1 1 1 2 { (default : Core) with pos := 2, cur := [98] } with replacement := some [120, 121] }, makeMatch 2 2 1 3 { (default : Core) with pos := 3, cur := [99] }] 0 = [97, 120, 121, 100] := by rfl

/-- a whole run of any program over any list of files (a path may be listed twice): NOTHING changes no
file; NEW changes nothing except paths `<f>.vored` for listed `f` — in particular a searched file is left
byte-identical unless it is itself the `.vored` of another listed file; OVERWRITE changes nothing except
the listed files -/
theorem C06_run_frame (pf vf : Nat) (mode : Mode) (files : List Bytes) :
    ∀ (cmds : List BCmd) (fs fs' : FileSys) (ms : List Match),
      runFilesL pf vf mode files cmds fs = some (.ok (ms, fs')) →
      (mode = .nothing → fs' = fs) ∧
      (mode = .new → ∀ q, (∀ f ∈ files, q ≠ f ++ voredSuffix) → fs'.get q = fs.get q) ∧
      (mode = .overwrite → ∀ q, q ∉ files → fs'.get q = fs.get q) := by
  intro cmds fs fs' ms h
  show ModeFrame mode (· ∈ files) fs fs'
  exact runFilesL_frame h

/-- a whole run over a DIRECTORY (every command lists it again, `runFilesDir`): NOTHING changes no file; NEW leaves
every path that is not of the form `<something>.vored` byte-identical — whatever the commands created meanwhile -/
theorem C06_run_dir_frame (pf vf : Nat) (mode : Mode) :
    ∀ (cmds : List BCmd) (fs fs' : FileSys) (ms : List Match),
      runFilesDir pf vf mode cmds fs = some (.ok (ms, fs')) →
      (mode = .nothing → fs' = fs) ∧
      (mode = .new → ∀ q, (∀ f, q ≠ f ++ voredSuffix) → fs'.get q = fs.get q) := by
  intro cmds fs fs' ms h
  have a := runFilesDir_frame h
  exact ⟨a.1, fun hm q hq => a.2.1 hm q fun f _ => hq f⟩

/-- the one-file run the correspondence drives is the list run on `[f]` -/
theorem C06_run_single (pf vf : Nat) (mode : Mode) (f : Bytes) :
    ∀ (cmds : List BCmd) (fs : FileSys), runFilesL pf vf mode [f] cmds fs = runFiles pf vf mode f cmds fs := by
  intro cmds
  induction cmds with
  | nil => intro fs; rfl
  | cons c cs ih =>
    intro fs
    simp only [runFilesL, runFiles, runFilesCmd]
    cases fs.get f with
    | none => rfl
    | some text =>
      simp only
      cases searchFile pf vf mode fs f text c with
      | none => rfl
      | some r =>
        cases r with
        | ok p =>
          obtain ⟨ms, fs1⟩ := p
          simp only [List.append_nil]
          rw [ih fs1]
        | panic t => rfl
        | pfuel => rfl

#print axioms C06_splice
#print axioms C06_memory_stream
#print axioms C06_memory_stream_splice
#print axioms C06_memory_stream_total
#print axioms C06_mode_nothing
#print axioms C06_mode_new
#print axioms C06_mode_overwrite
#print axioms C06_find_pure

#print axioms C06_run_frame
#print axioms C06_run_dir_frame
#print axioms C06_run_single

end Vore

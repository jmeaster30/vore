import Vore.Lemmas.LexTokens
import Vore.Lemmas.LexTotal
import Vore.Model.LexSource
/-!
# C08 (lexer half) — the lexer is total

*For every byte string given as source, Compile returns … either a program and no error, or no
program and an error whose message can be printed; it never panics, never loops forever …*

Lexer part.  `Vore.Lex.lex` (Vore/Model/Lexer.lean) is defined **without fuel**, by well-founded
recursion on the unread input: Lean accepted `loop` because every iteration reads a byte
(`read_rest_lt`, `readEscape_rest_le`) and `getTokens` because every token other than EOF consumes at
least one byte (`getNextToken_progress`) — that is the "never loops forever" half.  The theorem below
is the "never panics / token list well formed / bounded output" half.  The three Go panics of the
lexer are outcomes of the model (`popPanic`: `unread` on an empty position stack, `convPanic`:
`HexToAscii`, `finalPanic`: `default:` of the final switch) and are proved unreachable, over the final
switch table and the `IsHex` ranges re-extracted from the Go source on every run.

Domain: the byte model `lex` is exact for ASCII sources; a source that is not ASCII is lexed through its class
image (`lexSource`, Vore/Model/LexSource.lean and Unicode.lean: UTF-8 decoding as `ReadRune` does it, then one byte
per rune standing for its `unicode.IsLetter/IsDigit/IsSpace` class), and `C08_lexer_total_all_sources` is the
statement for every byte string.
-/
namespace Vore.Lex
open Vore Vore.ExtractedLex

/-- stands for `LexError.Error()`, which prints the message, the lexeme and the line and column spans (lines and
columns are not modelled): the message of the kind plus the offset span; only that it is not empty is used -/
def errorText (e : ErrKind) (startOff endOff : Nat) : String :=
  s!"LexError: {e.message} ({startOff} - {endOff})"

/-- **C08, lexer.**  For every string over the lexer's alphabet (ASCII and the class bytes of non-ASCII runes:
every byte string) the lexer returns either a token list that ends in
exactly one EOF token (no EOF before the end) with at most one token per source byte plus the EOF,
or a lex error of one of the four printable kinds; it never panics. -/
theorem C08_lexer_total (src : Bytes) :
    (∃ ts, lex src = .tokens ts ∧
        (∃ pre e, ts = pre ++ [e] ∧ e.kind = .eof ∧ ∀ t ∈ pre, t.kind ≠ .eof) ∧
        ts.length ≤ src.length + 1) ∨
    (∃ e a b, lex src = .lexError e a b ∧ errorText e a b ≠ "") := by
  rcases getTokens_ok (initLexer src) with ⟨ts, h1, h2, h3⟩ | ⟨e, a, b, h⟩
  · exact Or.inl ⟨ts, h1, h2, h3⟩
  · refine Or.inr ⟨e, a, b, h, ?_⟩
    -- a concatenation is empty only if every part is, and the decimal of a number never is
    simp [errorText]

/-- **C08, lexer, every byte string.**  `lexSource` decodes the source into the runes `ReadRune` delivers (invalid
UTF-8 included: U+FFFD, one byte at a time) and lexes their class image; for EVERY byte string it returns a token
list ending in exactly one EOF token, with at most one token per source byte plus the EOF, or one of the four
printable lex errors — never a panic; and on ASCII sources it is `lex`. -/
theorem C08_lexer_total_all_sources (src : Bytes) :
    ((∃ ts, lexSource src = .tokens ts ∧
        (∃ pre e, ts = pre ++ [e] ∧ e.kind = .eof ∧ ∀ t ∈ pre, t.kind ≠ .eof) ∧
        ts.length ≤ src.length + 1) ∨
      (∃ e a b, lexSource src = .lexError e a b ∧ errorText e a b ≠ "")) ∧
    ((∀ b ∈ src, b < 128) → lexSource src = lex src) := by
  refine ⟨?_, lexSource_ascii src⟩
  rcases C08_lexer_total (Vore.Unicode.abstractSource src) with ⟨ts, h1, h2, h3⟩ | h
  · exact Or.inl ⟨ts, h1, h2, Nat.le_trans h3 (Nat.succ_le_succ (Vore.Unicode.abstractSource_length src))⟩
  · exact Or.inr h

theorem C08_lexer_no_panic (src : Bytes) (m : String) : lex src ≠ .panic m := by
  intro hp
  rcases C08_lexer_total src with ⟨ts, h, -⟩ | ⟨e, a, b, h, -⟩
  · cases h.symm.trans hp
  · cases h.symm.trans hp

/-- **the facts the totality proof reads off the current Go source**: every lexer state other than
SSTART has a `case` in the final switch (so `default: panic("Unknown final state")` is dead), the
model knows all states, and what `IsHex` accepts `HexToAscii` can convert -/
theorem C08_lexer_tables :
    (∀ s : St, goFinal.lookup s = finalSpec s) ∧
    goStates = St.all ∧
    (∀ a b : UInt8, isHex a = true → isHex b = true → (hexToAscii a b).isSome) :=
  ⟨goFinal_spec, goStates_spec, hexToAscii_isSome⟩

/-- a token other than EOF has consumed at least one byte (the termination measure of `getTokens`, restated) -/
theorem C08_lexer_progress (r : Reader) (t : Token) (r' : Reader)
    (h : getNextToken r = .tok t r') (hk : t.kind ≠ .eof) : r'.rest.length < r.rest.length :=
  getNextToken_progress r t r' h hk

/-! non-vacuity: both disjuncts occur -/
example : ∃ ts, lex [] = .tokens ts := ⟨_, getTokens_nil 0 none⟩

example : lex [39, 92, 120, 52, 49, 39] = .tokens [⟨.string, [65], 0, 6⟩, ⟨.eof, [], 6, 6⟩] := by
  have h : Spells .single [.hex 52 49] [65] := ⟨by simp only [okAll, Sp.ok]; decide, rfl⟩
  simpa [literal, renderAll, Sp.render, Quote.byte] using lex_literal _ _ _ h

/-- `#` is not a token: a printable error, not a panic -/
example : lex [35] = .lexError .unknownToken 0 1 := by
  have h : getNextToken ⟨[35], 0, none⟩ = .err .unknownToken 0 1 := by
    unfold getNextToken
    rw [loop_cons (by decide)]
    have : step .start 35 = .brk .error true := by decide
    simp [this, finalAct_err_of_spec .error _ .unknownToken rfl]
  exact getTokens_err _ _ _ _ h

end Vore.Lex

#print axioms Vore.Lex.C08_lexer_total
#print axioms Vore.Lex.C08_lexer_total_all_sources
#print axioms Vore.Lex.C08_lexer_no_panic
#print axioms Vore.Lex.C08_lexer_tables
#print axioms Vore.Lex.C08_lexer_progress

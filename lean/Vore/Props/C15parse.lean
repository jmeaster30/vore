import Vore.Lemmas.ParserFinal
/-!
# C15 (parser part) — whitespace and comments between tokens, and keyword spelling, never change
what the parser builds

Property C15: "Inserting whitespace, line comments or block comments between any two tokens of a
program, or changing the letter case of its keywords, yields a program that is accepted exactly when
the original is and that parses to the same syntax tree".

At token level: `strip ts` removes the WS and COMMENT tokens and forgets everything the parser
cannot observe (offsets; the lexeme of every token except IDENTIFIER, NUMBER, STRING, REGEXP — so
also the spelling / letter case of keywords).  `Grammar.parse` (`Vore/Spec/ParserGrammar.lean`) is a
second, index-free parser written directly over the stripped list; it never skips anything.

`C15_parser`: the real parser's model, which has to remember to call `consumeIgnoreableTokens` at
every one of its ~80 token accesses, computes exactly `Grammar.parse (strip ts)`.  The proof goes
function by function (`Lemmas/ParserLeaves`, `ParserPratt`, `ParserExpr`, `ParserStmt`, `ParserCmd`)
from what `skip_spec` says about `consumeIgnoreableTokens`; a call site that forgot to skip makes its case
unprovable.

Errors: the relation identifies all parse errors (message and position are not part of C15:
`parse_process_statements` for example reports a different message at end of input depending on
trailing blanks).
-/
namespace Vore.Parser
open Vore Vore.Grammar

variable {rx : Bytes → RegexOutcome} {ts ts' : List Token}

/-- `parse ts ≈ Grammar.parse (strip ts)` : same tree, or both a syntax error -/
theorem C15_parser (hrx : ∀ b, rx b ≠ .panic) (h : EndsEof ts) :
    Agree (parse rx ts) (Grammar.parse rx (strip ts)) :=
  sim_agree (parse_agree hrx h)

/-- **C15, parser.** Two token lists with the same significant tokens (same kinds, same lexemes of
identifiers / numbers / strings / regex literals; any layout, any comments, any keyword spelling)
are accepted together and give the same tree. -/
theorem C15_parser_layout (hrx : ∀ b, rx b ≠ .panic) (h : EndsEof ts) (h' : EndsEof ts')
    (hs : strip ts = strip ts') : Same (parse rx ts) (parse rx ts') := by
  have a := C15_parser hrx h
  have b := C15_parser hrx h'
  rw [hs] at a
  exact same_of_agree a b

/-! ### per region (each function started inside the list, with the fuel `parse` hands out) -/

theorem C15_amount (h : EndsEof ts) {i : Nat} (hi : i < ts.length) :
    Agree (parseAmount ts i) (pAmount (strip (ts.drop i))) := sim_agree (parseAmount_sim h ⟨Nat.le_refl _, hi⟩)

theorem C15_expression (hrx : ∀ b, rx b ≠ .panic) (h : EndsEof ts) {i : Nat} {t : Token}
    (htk : tk ts i = some t) (hs : ignorable t.kind = false) :
    Agree (parseExpression rx ts (fuelOf ts) i) (pExpression rx (fuelOf ts) (strip (ts.drop i))) :=
  sim_agree (expression_top hrx h htk hs)

theorem C15_processExpression (h : EndsEof ts) {i : Nat} (hi : i < ts.length) :
    Agree (parseProcessExpression ts i) (pProcessExpression (strip (ts.drop i))) :=
  sim_agree (parseProcessExpression_sim h ⟨Nat.le_refl _, hi⟩)

/-- statements: same tree and same rest; or both errors; or the model stops at the final EOF where
the grammar reports an error (every caller then reports one too, see `simSt_bind`) -/
theorem C15_statements (h : EndsEof ts) {i : Nat} (hi : i < ts.length) :
    SimSt ts i (parseStatements ts (fuelOf ts) i) (pStatements (fuelOf ts) (strip (ts.drop i))) :=
  statements_top h hi

theorem C15_command (hrx : ∀ b, rx b ≠ .panic) (h : EndsEof ts) {i : Nat} {t : Token}
    (htk : tk ts i = some t) (hs : ignorable t.kind = false) :
    SimC ts i (parseCommand rx ts (fuelOf ts) (fuelOf ts) i)
      (pCommand rx (fuelOf ts) (fuelOf ts) (strip (ts.drop i))) :=
  command_top hrx h htk hs

/-! ### non-vacuity -/

def lyTok (k : Tok) (lex : Bytes := []) : Token := { kind := k, lexeme := lex }

/-- `find all 'a'`  and  `FIND --c\n  all\t'a' ` -/
def layoutA : List Token := [lyTok .find [102, 105, 110, 100], lyTok .ws [32], lyTok .all, lyTok .ws [32], lyTok .string [97], lyTok .eof]
def layoutB : List Token :=
  [lyTok .find [70, 73, 78, 68], lyTok .ws [32], lyTok .comment [45, 45, 99], lyTok .ws [10, 32, 32], lyTok .all, lyTok .ws [9],
   lyTok .string [97], lyTok .ws [32], lyTok .eof]

theorem C15_example_hyp : EndsEof layoutA ∧ EndsEof layoutB ∧ strip layoutA = strip layoutB :=
  ⟨⟨layoutA.dropLast, lyTok .eof, rfl, rfl, by decide⟩, ⟨layoutB.dropLast, lyTok .eof, rfl, rfl, by decide⟩, by decide +kernel⟩

theorem C15_example_same : Same (parse (fun _ => .error) layoutA) (parse (fun _ => .error) layoutB) :=
  C15_parser_layout (fun _ => nofun) C15_example_hyp.1 C15_example_hyp.2.1 C15_example_hyp.2.2

/-- the grammar really parses: it builds the `find` command from the stripped tokens -/
theorem C15_example_grammar :
    (match Grammar.parse (fun _ => .error) (strip layoutB) with
      | .ok [Cmd.find ⟨true, 0, 0, 0⟩ (.seq (.atom (.str false false [97])) .empty)] _ => true
      | _ => false) = true := by decide +kernel

end Vore.Parser

#print axioms Vore.Parser.C15_parser
#print axioms Vore.Parser.C15_parser_layout
#print axioms Vore.Parser.C15_amount
#print axioms Vore.Parser.C15_expression
#print axioms Vore.Parser.C15_processExpression
#print axioms Vore.Parser.C15_statements
#print axioms Vore.Parser.C15_command
#print axioms Vore.Parser.C15_example_hyp
#print axioms Vore.Parser.C15_example_same
#print axioms Vore.Parser.C15_example_grammar

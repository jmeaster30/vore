import Vore.Lemmas.LexLayout
import Vore.Model.LexSource
/-!
# C15 (lexer half) — whitespace, comments and keyword case never change the token stream

*Inserting whitespace, line comments or block comments between any two tokens of a program, or
changing the letter case of its keywords, yields a program that is accepted exactly when the original
is and that parses to the same syntax tree …; whitespace is needed only to separate adjacent words.*

The lexer's part of that: the *significant* token sequence (kinds and lexemes, WS and COMMENT
stripped) — which is all the parser looks at — is unchanged.

Specification: `Vore/Spec/LexItems.lean`.  A source is a list of lexical items (`Item`); `WellSep`
says that every item is well formed and does not run into its right neighbour — the *only* places
where a separator is needed (`Item.sep`): a word before a letter or digit, a number before a digit,
a blank run before a blank, `=` `<` `>` before `=`, `-` before `-`, and a line comment before
anything but a newline.  Everything else may touch.

* `C15_lex_items`: on a well-separated item list the lexer returns exactly the items' tokens + EOF
  (for all lists, by induction; each item by its own lemma for an arbitrary right context).
* `C15_lexer_gap`: inserting a gap (any list of blank runs, line comments, block comments) at an item
  boundary leaves the significant tokens unchanged, provided the gap is itself well separated from
  what follows and the item before it does not run into it — the "two neighbours do not fuse"
  hypothesis, spelled out.
* `C15_layout`: any two well-separated sources with the same significant items have the same
  significant tokens (covers a blank inserted next to an existing blank: the two fuse into one run).
* `C15_case`: changing the letter case of words (keywords, identifiers) keeps every token kind.

All four are over the keyword/operator/final-switch tables regenerated from lexer.go.
Domain: sources without NUL whose bytes ≥ 0x80 stand for classes of non-ASCII runes (`Item.ok`; Model/Unicode.lean).
-/
namespace Vore.Lex
open Vore Vore.ExtractedLex

/-- **The lexer implements the lexical grammar**: a well-separated list of items lexes to exactly
the items' tokens (kind and lexeme, in order) followed by EOF. -/
theorem C15_lex_items (items : List Item) (h : WellSep [] items) :
    ∃ ts, lex (renderItems items) = .tokens ts ∧ ts.map Token.kl = items.map Item.kl ++ [(.eof, [])] :=
  getTokens_items items 0 none h

/-- **C15, layout independence (lexer), general form.**  Two well-separated sources with the same
significant items — however blanks, line comments and block comments are distributed between them —
have the same significant tokens. -/
theorem C15_layout (a b : List Item) (ha : WellSep [] a) (hb : WellSep [] b)
    (h : a.filter (fun it => !it.insignificant) = b.filter (fun it => !it.insignificant)) :
    significant (lex (renderItems a)) = significant (lex (renderItems b)) := by
  rw [significant_items _ ha, significant_items _ hb, h]

/-- **C15, gap insertion (lexer).**  `items1 ++ items2` is a program; `gap` is any sequence of blank
runs, line comments and block comments.  If the gap is well formed and separated from what follows
it (`hgap`: e.g. a line comment is followed by a newline, a blank run is not followed by another
blank), and the item before the gap does not run into it (`hleft`: e.g. the item before a comment is
not `-`), then the program with the gap has the same significant tokens. -/
theorem C15_lexer_gap (items1 gap items2 : List Item)
    (hins : ∀ g ∈ gap, g.insignificant = true)
    (h0 : WellSep [] (items1 ++ items2))
    (hgap : WellSep (renderItems items2) gap)
    (hleft : WellSep (renderItems gap ++ renderItems items2) items1) :
    significant (lex (renderItems (items1 ++ gap ++ items2))) =
      significant (lex (renderItems (items1 ++ items2))) := by
  have h2 : WellSep [] items2 := ((wellSep_append [] items1 items2).mp h0).2
  have h1 : WellSep [] (items1 ++ gap ++ items2) := by
    rw [List.append_assoc, wellSep_append, wellSep_append]
    simp only [List.append_nil, renderItems_append]
    exact ⟨hleft, hgap, h2⟩
  have hg : gap.filter (fun it => !it.insignificant) = [] := by
    rw [List.filter_eq_nil_iff]; intro g hg; simp [hins g hg]
  exact C15_layout _ _ h1 h0 (by simp [List.filter_append, hg])

/-- the same item, or the same word in another letter case -/
def CaseVar (it it' : Item) : Prop :=
  it = it' ∨ ∃ w w', it = .word w ∧ it' = .word w' ∧ w.map asciiLower = w'.map asciiLower

inductive CaseVars : List Item → List Item → Prop where
  | nil : CaseVars [] []
  | cons {it it' : Item} {its its' : List Item} : CaseVar it it' → CaseVars its its' → CaseVars (it :: its) (it' :: its')

theorem caseVars_kinds (items items' : List Item) (h : CaseVars items items') :
    items.map Item.kind = items'.map Item.kind := by
  induction h with
  | nil => rfl
  | cons hc _ ih =>
    have : ∀ {it it'}, CaseVar it it' → it.kind = it'.kind := by
      rintro _ _ (rfl | ⟨w, w', rfl, rfl, hw⟩)
      · rfl
      · exact kwLookup_case w w' hw
    simp only [List.map_cons, this hc, ih]

/-- re-casing words keeps a program well separated -/
theorem wellSep_caseVar (tail : Bytes) (items items' : List Item) (h : CaseVars items items')
    (hw : WellSep tail items) : WellSep tail items' ∧ HeadRel (renderItems items ++ tail) (renderItems items' ++ tail) := by
  induction h with
  | nil => exact ⟨trivial, Or.inl rfl⟩
  | @cons it it' its its' hc _ ih =>
    obtain ⟨hok, hsep, hrest⟩ := hw
    obtain ⟨hw', hrel⟩ := ih hrest
    -- `sep` sees only how the rest begins: as before, or with a letter where there was a letter
    have hsep' := sep_headRel it _ _ hrel hsep
    simp only [renderItems_cons, List.append_assoc]
    rcases hc with rfl | ⟨w, w', rfl, rfl, hcase⟩
    · refine ⟨⟨hok, hsep', hw'⟩, .inl ?_⟩
      cases hr : it.render with
      | nil => exact absurd hr (item_render_ne_nil it hok)
      | cons c cs => rfl
    · have hok' := word_ok_case w w' hcase hok
      refine ⟨⟨hok', hsep', hw'⟩, .inr ?_⟩
      obtain ⟨l, ws, rfl, hl, _⟩ := hok
      obtain ⟨l', ws', rfl, hl', _⟩ := hok'
      exact ⟨l, l', rfl, rfl, by simpa [isLetterB_eq] using hl, by simpa [isLetterB_eq] using hl'⟩

/-- **C15, keyword case (lexer).**  Changing the letter case of any words of a well-separated program
(keywords included: `find` / `FIND` / `Find`) gives a program that lexes to tokens of the same
kinds, position by position — the keyword decision is made on the lower-cased lexeme. -/
theorem C15_case (items items' : List Item) (h : CaseVars items items') (hw : WellSep [] items) :
    ∃ ts ts', lex (renderItems items) = .tokens ts ∧ lex (renderItems items') = .tokens ts' ∧
      ts.map (·.kind) = ts'.map (·.kind) := by
  have hw' := (wellSep_caseVar [] items items' h hw).1
  obtain ⟨ts, hts, hkl⟩ := C15_lex_items items hw
  obtain ⟨ts', hts', hkl'⟩ := C15_lex_items items' hw'
  refine ⟨ts, ts', hts, hts', ?_⟩
  have kinds : ∀ {ts : List Token} {its : List Item}, ts.map Token.kl = its.map Item.kl ++ [(.eof, [])] →
      ts.map (·.kind) = its.map Item.kind ++ [.eof] := fun h => by
    simpa [Token.kl, Item.kl, Function.comp_def] using congrArg (List.map Prod.fst) h
  rw [kinds hkl, kinds hkl', caseVars_kinds items items' h]

/-! ## every source, not only ASCII ones

The lexer on an arbitrary byte string is `lexSource src = lex (abstractSource src)` (Model/LexSource.lean): the runes
`ReadRune` delivers, each non-ASCII rune replaced by the byte of its class (Unicode white space ↦ a blank byte, letters,
digits, the two runes that lower-case into ASCII, everything else).  The layout theorems therefore hold for every
source whose class image is a rendering of well-separated items — in particular for sources that use U+00A0, U+2003,
U+3000 … between tokens, which the Go lexer accepts as white space. -/

/-- **C15, layout independence (lexer), all sources.**  Two byte strings — any encoding, any Unicode white space —
whose class images are well-separated item lists with the same significant items have the same significant tokens. -/
theorem C15_layout_all_sources (s1 s2 : Bytes) (a b : List Item)
    (h1 : Unicode.abstractSource s1 = renderItems a) (h2 : Unicode.abstractSource s2 = renderItems b)
    (ha : WellSep [] a) (hb : WellSep [] b)
    (h : a.filter (fun it => !it.insignificant) = b.filter (fun it => !it.insignificant)) :
    significant (lexSource s1) = significant (lexSource s2) := by
  unfold lexSource
  rw [h1, h2]
  exact C15_layout a b ha hb h

theorem C15_lexer_gap_all_sources (s1 s2 : Bytes) (items1 gap items2 : List Item)
    (h1 : Unicode.abstractSource s1 = renderItems (items1 ++ gap ++ items2))
    (h2 : Unicode.abstractSource s2 = renderItems (items1 ++ items2))
    (hins : ∀ g ∈ gap, g.insignificant = true)
    (h0 : WellSep [] (items1 ++ items2))
    (hgap : WellSep (renderItems items2) gap)
    (hleft : WellSep (renderItems gap ++ renderItems items2) items1) :
    significant (lexSource s1) = significant (lexSource s2) := by
  unfold lexSource
  rw [h1, h2]
  exact C15_lexer_gap items1 gap items2 hins h0 hgap hleft

/-! ## non-vacuity -/

theorem word_ok (l : UInt8) (ws : Bytes) (hl : isLetterB l = true) (hws : ∀ c ∈ ws, isAlnumB c = true) :
    (Item.word (l :: ws)).ok := ⟨l, ws, rfl, hl, hws⟩

/-- `a(` ++ gap ++ `b` with gap = blank, block comment, line comment, newline:
`a( --(c)----x⏎b` has the significant tokens of `a(b` -/
example :
    significant (lex (renderItems ([.word [97], .punct 40] ++
        [.blank [32], .blockComment [99], .lineComment [120], .blank [10]] ++ [.word [98]]))) =
    significant (lex (renderItems ([.word [97], .punct 40] ++ [.word [98]]))) := by
  apply C15_lexer_gap
  · decide
  · exact ⟨word_ok 97 [] (by decide) (by simp), by simp [Item.sep, renderItems, Item.render]; decide,
      by simp [Item.ok]; decide, trivial, word_ok 98 [] (by decide) (by simp), by simp [Item.sep, renderItems], trivial⟩
  · refine ⟨⟨by decide, by simp; decide⟩, ?_, ⟨by simp, by decide⟩, trivial, ⟨by simp, by simp⟩, ?_,
      ⟨by decide, by simp; decide⟩, ?_, trivial⟩
    · simp [Item.sep, renderItems, Item.render]; decide
    · simp [Item.sep, renderItems, Item.render]
    · simp [Item.sep, renderItems, Item.render]; decide
  · exact ⟨word_ok 97 [] (by decide) (by simp), by simp [Item.sep, renderItems, Item.render]; decide,
      by simp [Item.ok]; decide, trivial, trivial⟩

/-- non-vacuity of the all-sources form: `a` U+00A0 `b` (bytes 61 C2 A0 62; a no-break space is white space to the Go
lexer) has the significant tokens of `a b` -/
example : significant (lexSource [97, 0xC2, 0xA0, 98]) = significant (lexSource [97, 32, 98]) := by
  apply C15_layout_all_sources _ _ [.word [97], .blank [0x83], .word [98]] [.word [97], .blank [32], .word [98]]
  · decide +kernel  -- the class of U+00A0 is looked up in the Unicode range tables
  · decide
  · refine ⟨word_ok 97 [] (by decide) (by simp), ?_, ?_, ?_, word_ok 98 [] (by decide) (by simp), ?_, trivial⟩ <;>
      simp [Item.sep, Item.ok, renderItems, Item.render] <;> decide
  · refine ⟨word_ok 97 [] (by decide) (by simp), ?_, ?_, ?_, word_ok 98 [] (by decide) (by simp), ?_, trivial⟩ <;>
      simp [Item.sep, Item.ok, renderItems, Item.render] <;> decide
  · rfl

/-- `find` / `FIND`: the same kind -/
example : kwLookup [70, 73, 78, 68] = .find ∧ kwLookup [102, 105, 110, 100] = .find := by decide

example : CaseVars [.word [102, 105, 110, 100], .blank [32], .word [120]] [.word [70, 73, 78, 68], .blank [32], .word [88]] :=
  .cons (Or.inr ⟨_, _, rfl, rfl, by decide⟩) (.cons (Or.inl rfl) (.cons (Or.inr ⟨_, _, rfl, rfl, by decide⟩) .nil))

end Vore.Lex

#print axioms Vore.Lex.C15_lex_items
#print axioms Vore.Lex.C15_lexer_gap
#print axioms Vore.Lex.C15_case
#print axioms Vore.Lex.C15_layout
#print axioms Vore.Lex.C15_layout_all_sources
#print axioms Vore.Lex.C15_lexer_gap_all_sources
#print axioms Vore.Lex.wellSep_caseVar

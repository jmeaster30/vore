import Vore.Lemmas.Soundness
/-!
# C12 — Compile rejects exactly the ill-typed process code

* `Vore/Spec/Typing.lean` states the documented typing rules (operator table of
  `Spec/DocOps.lean`, `if` conditions boolean, return type by context, `break`/`continue`
  inside `loop`, variables typed by their last assignment, unknown names strings).
* `checkBody` (`Vore/Model/Check.lean`) is the model of `checkStatement` & co.; its expression
  rules are tied to /repo's current source by the regenerated `goTyping`
  (`C12_checker_is_table`, `C12_table_is_documented`: finite case analysis, re-checked
  whenever `Vore/Extracted.lean` changes).
* `C12_iff`: for every statement tree and both contexts the checker accepts exactly the
  well-typed bodies (structural induction).
* `C12_sound`: accepted code in which every variable keeps one type (`SingleTyped`) never
  reaches the evaluator's undefined-operation panic, for every fuel and every run-time
  environment that agrees with the checker's assumptions; the only panic left is the integer
  division by zero, which typing does not exclude (property C09).
-/
namespace Vore
open Vore.Tables Vore.Extracted Vore.Spec Vore.Spec.Typing

/-- the model's expression and return rules are the regenerated Go tables -/
theorem C12_checker_is_table :
    (∀ l r op, binType l r op = typeFromTable goTyping l r op)
    ∧ (∀ t op, unType t op = unTypeFromTable goTyping t op)
    ∧ (∀ ctx t, retOK ctx t = retFromTable goTyping ctx t) :=
  ⟨binType_eq_table, unType_eq_table, retOK_eq_table⟩

/-- the regenerated Go tables are the documented table: every operator/operand-type
combination, and the return rule of each context -/
theorem C12_table_is_documented :
    (∀ l r op, typeFromTable goTyping l r op = DocOps.binType l r op)
    ∧ (∀ t op, unTypeFromTable goTyping t op = DocOps.unType t op)
    ∧ (∀ ctx t, retFromTable goTyping ctx t = true ↔ returnAllowed ctx t) :=
  ⟨goTyping_bin_documented, goTyping_un_documented, goTyping_ret_documented⟩

/-- accepted ⇔ well typed, for all statement trees, in both contexts -/
theorem C12_iff (ctx : Ctx) (body : Stmt) :
    checkBody ctx body = true ↔ Spec.Typing.wellTyped ctx body := by
  unfold checkBody wellTyped
  rw [Option.isSome_iff_exists]
  constructor
  · rintro ⟨j, hj⟩
    exact ⟨_, initTEnv_get ▸ (wt_of_checkStmt ctx hj).1⟩
  · rintro ⟨G', w⟩
    obtain ⟨j, hj, _⟩ := checkStmt_of_wt ctx w { env := initTEnv, inLoop := false } initTEnv_get rfl
    exact ⟨j, hj⟩

/-- the same for expressions, in any type environment -/
theorem C12_expr_iff (Γ : TEnv) (e : PExpr) (t : PT) :
    typeOf Γ e = some t ↔ Spec.Typing.HasType Γ.get e t :=
  typeOf_iff

/-- soundness: accepted single-typed code never evaluates an undefined operation.  The only
panic the evaluator can raise is Go's integer division by zero. -/
theorem C12_sound (ctx : Ctx) (body : Stmt)
    (hsingle : SingleTyped initEnv body) (haccept : checkBody ctx body = true) :
    ∀ (fuel : Nat) (ρ : PEnv) (cur : PVal) (status : PStatus), Agrees ρ initEnv →
      ∀ tag, execTop fuel body { cur := cur, env := ρ, status := status } = .panic tag →
        tag = "integer divide by zero" := by
  intro fuel ρ cur status hρ tag hrun
  obtain ⟨_, w⟩ := (C12_iff ctx body).mp haccept
  have := execTop_sound ctx fuel w hsingle { cur := cur, env := ρ, status := status } hρ
  rw [hrun] at this
  exact this

/-- … in particular none of the three `SHOULDN'T GET HERE (…)` panics of `executeBinaryExpr` -/
theorem C12_sound_undefined (ctx : Ctx) (body : Stmt)
    (hsingle : SingleTyped initEnv body) (haccept : checkBody ctx body = true)
    (fuel : Nat) (ρ : PEnv) (cur : PVal) (status : PStatus) (hρ : Agrees ρ initEnv) (t : PT) :
    execTop fuel body { cur := cur, env := ρ, status := status } ≠ .panic (undefinedTag t) := by
  intro h
  have := C12_sound ctx body hsingle haccept fuel ρ cur status hρ _ h
  cases t <;> simp [undefinedTag] at this

/-- … and `runProcess` (what the VM and the replacer call) never reports one -/
theorem C12_sound_runProcess (ctx : Ctx) (body : Stmt)
    (hsingle : SingleTyped initEnv body) (haccept : checkBody ctx body = true)
    (fuel : Nat) (ρ : PEnv) (hρ : Agrees ρ initEnv) (tag : String)
    (h : runProcess fuel body ρ = .error tag) : tag = "integer divide by zero" :=
  C12_sound ctx body hsingle haccept fuel ρ (.str []) .next hρ tag (runProcess_error.mp h)

/-- a run-time environment agrees with the checker's assumptions when `matchLength` is a
number and no variable is a boolean (captures and `match` are strings, `matchNumber` and
`matchLength` numbers: the environments `matchEndSubroutine` and `executeReplaceProcess`
build) -/
theorem C12_agrees_of_no_bool (ρ : PEnv) (hlen : (lookup ρ "matchLength").type = .number)
    (hnb : ∀ x, (lookup ρ x).type ≠ .boolean) : Agrees ρ initEnv := by
  intro x
  unfold initEnv
  split
  · next hx => exact .inl (hx ▸ hlen)
  · cases h : (lookup ρ x).type with
    | string => exact .inl rfl
    | number => exact .inr ⟨rfl, rfl⟩
    | boolean => exact absurd h (hnb x)

/-- a transform that the checker accepts, in which every variable keeps one type:
`set acc to acc + match  if matchLength > 1 then loop break end end  return matchNumber + 1 * 2` -/
def exampleBody : Stmt :=
  .seq (.set "acc" (.bin .plus (.var "acc") (.var "match")))
    (.seq (.ite (.bin .greater (.var "matchLength") (.num 1)) (.seq (.loop (.seq .brk .skip)) .skip) .skip)
      (.seq (.ret (.bin .plus (.var "matchNumber") (.bin .mult (.num 1) (.num 2)))) .skip))

/-- the environment of `executeReplaceProcess` for a match `ab`, number 3, one capture -/
def exampleEnv : PEnv :=
  [("v", .str [97]), ("match", .str [97, 98]), ("matchLength", .num 2), ("matchNumber", .num 3)]

theorem exampleBody_accepted : checkBody .transformation exampleBody = true := by decide

theorem exampleBody_single : SingleTyped initEnv exampleBody :=
  initTEnv_get ▸ (singleTypedB_iff initTEnv exampleBody).mp (by decide)

theorem exampleEnv_agrees : Agrees exampleEnv initEnv :=
  C12_agrees_of_no_bool _ rfl (lookup_of_forall (P := (·.type ≠ .boolean)) nofun (by decide))

/-- the hypotheses of `C12_sound` are satisfiable, and the run returns a value -/
example : SingleTyped initEnv exampleBody ∧ checkBody .transformation exampleBody = true
    ∧ Agrees exampleEnv initEnv
    ∧ runProcess 10 exampleBody exampleEnv = .ok (some (.num 5)) :=
  ⟨exampleBody_single, exampleBody_accepted, exampleEnv_agrees, by
    simp [runProcess, execTop, execStmt, evalExpr, exampleBody, exampleEnv, PEnv.get, PEnv.put, List.find?]
    rfl⟩

/-- `C12_iff`, both directions inhabited: an accepted and a rejected body -/
example : Spec.Typing.wellTyped .transformation exampleBody :=
  (C12_iff _ _).mp exampleBody_accepted
example : ¬ Spec.Typing.wellTyped .predicate (.seq (.ret (.bin .plus (.bool true) (.bool true))) .skip) :=
  mt (C12_iff _ _).mpr (by decide)
example : ¬ Spec.Typing.wellTyped .predicate (.seq .brk .skip) :=
  mt (C12_iff _ _).mpr (by decide)

/-- division by zero is NOT excluded by typing: accepted, single-typed, and it panics -/
example : checkBody .transformation (.seq (.ret (.bin .div (.num 1) (.num 0))) .skip) = true
    ∧ runProcess 1 (.seq (.ret (.bin .div (.num 1) (.num 0))) .skip) [] = .error "integer divide by zero" :=
  ⟨by decide, by simp [runProcess, execTop, execStmt, evalExpr]; rfl⟩

/-- outside `SingleTyped` the conclusion fails: `x` is a string when the branch is not taken -/
example : checkBody .predicate
      (.seq (.ite (.bin .dequal (.var "match") (.str [97])) (.seq (.set "x" (.bool true)) .skip) .skip)
        (.seq (.ret (.bin .and (.var "x") (.bool true))) .skip)) = true
    ∧ runProcess 5
      (.seq (.ite (.bin .dequal (.var "match") (.str [97])) (.seq (.set "x" (.bool true)) .skip) .skip)
        (.seq (.ret (.bin .and (.var "x") (.bool true))) .skip))
      [("match", .str [98]), ("matchLength", .num 1)] = .error "SHOULDN'T GET HERE (string)" :=
  ⟨by decide, by simp [runProcess, execTop, execStmt, evalExpr, PEnv.get, List.find?]; rfl⟩

end Vore

#print axioms Vore.C12_checker_is_table
#print axioms Vore.C12_table_is_documented
#print axioms Vore.C12_iff
#print axioms Vore.C12_expr_iff
#print axioms Vore.C12_sound
#print axioms Vore.C12_sound_undefined
#print axioms Vore.C12_sound_runProcess
#print axioms Vore.C12_agrees_of_no_bool

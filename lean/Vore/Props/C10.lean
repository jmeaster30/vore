import Vore.Props.C01
import Vore.Lemmas.TotalR
/-!
# C10 — A search without unguarded recursion always terminates

Proved here for every program without subroutines (no recursion at all): loops whose body can
match the empty string, nested unbounded loops, zero-width anchors under `at least 0`, `not in`
at end of input — the search returns for every input, under every amount clause.  The argument is
the one the property names: the specification is total because an optional iteration that consumed
nothing is rejected and consumption is bounded by the text (`Lemmas/SpecTotal.lean`), and the VM
follows the specification step for step (`Lemmas/SimR.lean`), so it stops too.

Stage 2 (`C10_terminates_guarded`, `C10_spec_total_guarded`): programs with inline subroutines, global
patterns and **recursion**.  "Without unguarded recursion" is formalised as `GuardedP`/`okCalls`
(`Lemmas/TotalR.lean`): every call either stands behind something that must consume at least one byte
since the enclosing subroutine body was entered (`mc`: a literal, a range, one of the one-byte classes `any`,
`whitespace`, `digit`, `upper`, `lower`, `letter`, negated or not, an `in` list of such items, `not in`; a sequence
that contains one, an alternation of such), or goes to a subroutine of strictly smaller rank (so the unguarded part of
the call graph is acyclic); predicates must evaluate.  The measure is (text left at body entry, rank),
lexicographic; call depth `(|text| + 1) * R` is never exhausted.  `guardedB` is a decidable sufficient
form for predicate-free programs.  PARTIAL: the criterion is conservative (a call guarded only by
another call's or a loop's consumption is not recognised); named loops are outside
`resolveBody`; both are left to the correspondence run, which enumerates nullable nests exhaustively and
checks the real engine against a step budget.
-/
namespace Vore
open Vore.Spec

/-- every call-free search terminates: some fuel makes `findMatches` return, whatever the input,
the amount clause and the predicate fuel -/
theorem C10_terminates_callfree (text : Bytes) (e : Expr) (hcf : CallFree e) (nid : Nat) (hne : codeLen e ≠ 0)
    (pf : Nat) (amt : Amount) :
    ∃ vf0, ∀ vf, vf0 ≤ vf → ∃ ms, findMatches pf vf (genCF e 0 nid).1 amt text = some (.ok ms) := by
  obtain ⟨A, _, h⟩ := C01_refines_partial text e hcf nid hne
  obtain ⟨vf0, hv⟩ := h pf
  exact ⟨vf0, fun vf hle => ⟨_, hv vf hle amt⟩⟩

/-- the specification itself always answers (loop fuel `|text| + 2` is never exhausted) -/
theorem C10_spec_total (text : Bytes) (e : Expr) (hcf : CallFree e) : findAll text e ≠ none :=
  findAll_total text e

/-- more fuel never changes an answer -/
theorem C10_fuel_monotone (pf : Nat) (prog : List Instr) (text : Bytes) (n k : Nat) (s : VMState) (o : Outcome)
    (h : run pf prog text n s = some o) : run pf prog text (n + k) s = some o :=
  run_mono pf prog text n k s o h

/-- the specification answers for every program without unguarded recursion: call depth
`(|text| + 1) * R` suffices, whatever the input -/
theorem C10_spec_total_guarded (r : RExpr) (pf : Nat) (rk : Nat → Nat) (R : Nat)
    (hG : GuardedP pf (procsOf r) rk R) (hpe : predsOK pf r) (hok : okCalls (procsOf r) rk false R r = true)
    (text : Bytes) (cf : Nat) (hcf : (text.length + 1) * R ≤ cf) : findAllR text pf cf r ≠ none := by
  obtain ⟨A, hA⟩ := findAllR_total text pf cf r rk R hG hpe hok hcf
  simp [hA]

/-- a search without unguarded recursion terminates: for every input some fuel makes the VM, running
the generated code of the resolved body, return — and what it returns is the specification's answer
under every amount clause -/
theorem C10_terminates_guarded (G : GEnv) (e : Expr) (r : RExpr) (hr : resolveBody G e = some r)
    (hu : UniqueSubs r) (hwf : WfR r) (hne : lenR r ≠ 0)
    (pf : Nat) (rk : Nat → Nat) (R : Nat)
    (hG : GuardedP pf (procsOf r) rk R) (hpe : predsOK pf r) (hok : okCalls (procsOf r) rk false R r = true)
    (text : Bytes) (nid : Nat) :
    ∃ A vf0, ∀ vf, vf0 ≤ vf → ∀ amt, findMatches pf vf (genBody r nid).1 amt text = some (.ok (window amt A)) := by
  obtain ⟨A, hA⟩ := findAllR_total text pf _ r rk R hG hpe hok (Nat.le_refl _)
  obtain ⟨vf0, hv⟩ := C01_refines_calls G e r hr hu hwf hne text pf _ nid A hA
  exact ⟨A, vf0, hv⟩

/-- the same with hypotheses on the source only (`WfG`, `WfE`: no empty `in` list) -/
theorem C10_terminates_guarded_source (G : GEnv) (e : Expr) (r : RExpr) (hr : resolveBody G e = some r)
    (hGw : WfG G) (he : WfE e) (hne : lenR r ≠ 0)
    (pf : Nat) (rk : Nat → Nat) (R : Nat)
    (hG : GuardedP pf (procsOf r) rk R) (hpe : predsOK pf r) (hok : okCalls (procsOf r) rk false R r = true)
    (text : Bytes) (nid : Nat) :
    ∃ A vf0, ∀ vf, vf0 ≤ vf → ∀ amt, findMatches pf vf (genBody r nid).1 amt text = some (.ok (window amt A)) :=
  C10_terminates_guarded G e r hr (resolveBody_unique G e r hr) (resolveBody_wf G e r hGw he hr) hne pf rk R hG hpe hok text nid

/-- decidable form: predicate-free programs with a rank table -/
theorem C10_terminates_guardedB (G : GEnv) (e : Expr) (r : RExpr) (hr : resolveBody G e = some r)
    (hu : UniqueSubs r) (hwf : WfR r) (hne : lenR r ≠ 0) (ranks : List (Nat × Nat)) (R : Nat)
    (hg : guardedB r ranks R = true) (pf : Nat) (text : Bytes) (nid : Nat) :
    ∃ A vf0, ∀ vf, vf0 ≤ vf → ∀ amt, findMatches pf vf (genBody r nid).1 amt text = some (.ok (window amt A)) := by
  obtain ⟨hG, hpe, hok⟩ := guardedB_sound pf r ranks R hg
  exact C10_terminates_guarded G e r hr hu hwf hne pf _ R hG hpe hok text nid

/-- non-vacuity: the property's own recursive example `set p to pattern {'a' maybe q 'b'} = q 'd'`,
`find all p` is guarded (the call of `q` stands behind `'a'`), with all ranks 0 -/
example : ∃ r, resolveBody [("p", .seq (.sub "q" (.seq (.atom (.str false false [97])) (.seq (.loop 0 1 false "" (.var "q"))
      (.seq (.atom (.str false false [98])) .empty)))) (.seq (.atom (.str false false [100])) .empty), .skip)]
      (.seq (.var "p") .empty) = some r ∧ guardedB r [] 1 = true := by
  refine ⟨_, rfl, by decide⟩

/-- an unguarded recursion is rejected by the criterion: `{maybe q 'a'} = q` -/
example : ∃ r, resolveBody [] (.seq (.sub "q" (.seq (.loop 0 1 false "" (.var "q")) (.seq (.atom (.str false false [97])) .empty))) .empty)
      = some r ∧ ∀ R, guardedB r [] R = false := by
  refine ⟨_, rfl, ?_⟩
  intro R
  -- the call of `q` in its own body is unguarded and the rank of `q` is not below itself; `R = 0` admits no rank at all
  cases R <;> rfl

/-- non-vacuity: nested unbounded loops over a nullable body -/
example : CallFree (.loop 0 (-1) false "" (.loop 0 (-1) false "" (.loop 0 1 false "" (.atom (.cls false .lineStart))))) ∧
    codeLen (.loop 0 (-1) false "" (.loop 0 (-1) false "" (.loop 0 1 false "" (.atom (.cls false .lineStart))))) ≠ 0 := by
  simp [CallFree, codeLen]

#print axioms C10_terminates_callfree
#print axioms C10_spec_total
#print axioms C10_fuel_monotone
#print axioms C10_spec_total_guarded
#print axioms C10_terminates_guarded
#print axioms C10_terminates_guardedB
#print axioms C10_terminates_guarded_source

end Vore

import Vore.Lemmas.RegexTotal
import Vore.Props.C08parse
/-!
# C14 / C08 — the regex sub-parser plugged into the parser model

`Vore.Parser.parse rx ts` (Vore/Model/Parser.lean) takes the regex sub-parser as the parameter
`rx : Bytes → RegexOutcome`, and `C08_parser_total` assumes `∀ b, rx b ≠ .panic`.
`RegexParser.parseFrom n0` (Vore/Model/RegexParser.lean) discharges that assumption for every
starting value `n0` of the group counter (`parseFrom_total`, the content of `C14_total`), which closes the regex half of C08:
the front end of the model — parser with the modelled regex sub-parser — answers with a complete
tree or a ParseError on every token list the lexer can return.

(`rx` is a function of the lexeme alone, so the instance below numbers the groups of every literal
from the same `n0`; group numbers across several literals of one program are compared on the real
code by the correspondence runs of C08 and C14, not here.  Totality does not depend on the counter.)
-/
namespace Vore
open Vore.RegexParser

/-- the modelled regex sub-parser as the parameter `rx` of the parser model -/
def rxOfModel (n0 : Nat) (p : Bytes) : Parser.RegexOutcome :=
  match RegexParser.parseFrom n0 p with
  | .ok (e, _) => .ok e
  | .error _ => .error
  | .panic _ => .panic
  | .fuel => .panic

theorem C14_rx_never_panics (n0 : Nat) : ∀ b, rxOfModel n0 b ≠ .panic := by
  intro b
  unfold rxOfModel
  rcases parseFrom_total b n0 with ⟨e, n, h⟩ | ⟨m, h⟩ <;> simp [h]

/-- **C08, front end of the model complete**: parser + regex sub-parser are total -/
theorem C14_front_total (n0 : Nat) {ts : List Token} (h : Parser.EndsEof ts) :
    (∃ cmds k, Parser.parse (rxOfModel n0) ts = .ok cmds k ∧ k < ts.length) ∨
    (∃ msg idx, Parser.parse (rxOfModel n0) ts = .error msg idx) :=
  Parser.C08_parser_total (C14_rx_never_panics n0) h

#print axioms C14_rx_never_panics
#print axioms C14_front_total

end Vore

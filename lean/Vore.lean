import Vore.Props.C01
import Vore.Props.C02
import Vore.Props.C03
import Vore.Props.C04
import Vore.Props.C05
import Vore.Props.C06
import Vore.Props.C07
import Vore.Props.C08lex
import Vore.Props.C08parse
import Vore.Props.C09
import Vore.Props.C10
import Vore.Props.C11
import Vore.Props.C12
import Vore.Props.C13
import Vore.Props.C14
import Vore.Props.C14front
import Vore.Props.C15lex
import Vore.Props.C15parse
import Vore.Props.C16
import Vore.Props.C17
import Vore.Props.C18
import Vore.Props.C19
import Vore.Props.C20
